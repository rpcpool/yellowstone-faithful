import Faithful.Generated.LoadChecks
import Faithful.Lib.Bytes

/-!
Model of `NewEpochFromConfig` (epoch.go) as far as the *identity* of the index files is concerned (property C10).

Every index file is abstracted to the identity it carries (`FileId`): its container format and the kind / epoch / root CID /
network recorded in its metadata.  The loader is **defined as the interpretation of the extracted check chain**
`Generated.loadChecks` (written by /verif/harness/extract/loadchecks.go from the source on every run): `run` executes the
steps in source order under their guards, `load = loadWith Generated.loadChecks`.

`loadWith_sound` is generic: for *any* chain that passes the decidable, purely syntactic-plus-abstract-interpretation test
`chainOK`, a successful load implies that every opened file has the expected kind, records the configured epoch, and that all
recorded root CIDs are equal (to the root the epoch serves, and to the configured Filecoin root in Filecoin mode).
`C10.generated_chain_ok : chainOK Generated.loadChecks = true` (evaluated by the kernel) is then the obligation that breaks when a
comparison disappears from the source.
-/
namespace EpochLoad
open B Generated

/-! ### files, configuration -/

/-- what a file is, as far as identity goes -/
inductive FileId where
  /-- compactindexsized file with the four default metadata entries (indexes.getDefaultMetadata succeeds) -/
  | compact (kind : Bytes) (epoch : Nat) (root : Bytes) (network : Bytes)
  /-- deprecated compactindex36 file (magic `rdcecidx`): no metadata at all -/
  | compactLegacy
  /-- bucketteer v2 (sig-exists): indexmeta key/values, each possibly absent -/
  | bucketteer (epoch : Option Nat) (root : Option Bytes) (network : Option Bytes)
  /-- deprecated bucketteer v1: string map that is never looked at -/
  | bucketteerLegacy
  /-- gsfa manifest: version + indexmeta key/values -/
  | manifest (version : Nat) (epoch : Option Nat) (root : Option Bytes) (network : Option Bytes)
  /-- slot-to-blocktime index (magic, start, end, epoch — self-consistent) -/
  | blocktime (epoch : Nat)
  /-- anything no reader accepts: missing, truncated, other magic, metadata key missing from a compact index, … -/
  | unreadable
deriving DecidableEq, Repr

inductive Shape where
  | compact | compactLegacy | bucketteer | bucketteerLegacy | manifest | blocktime | unreadable
deriving DecidableEq, Repr

def FileId.shape : FileId → Shape
  | .compact .. => .compact
  | .compactLegacy => .compactLegacy
  | .bucketteer .. => .bucketteer
  | .bucketteerLegacy => .bucketteerLegacy
  | .manifest .. => .manifest
  | .blocktime .. => .blocktime
  | .unreadable => .unreadable

def FileId.kind? : FileId → Option Bytes
  | .compact k _ _ _ => some k
  | _ => none

def FileId.epoch? : FileId → Option Nat
  | .compact _ e _ _ => some e
  | .bucketteer e _ _ => e
  | .manifest _ e _ _ => e
  | .blocktime e => some e
  | _ => none

def FileId.root? : FileId → Option Bytes
  | .compact _ _ r _ => some r
  | .bucketteer _ r _ => r
  | .manifest _ _ r _ => r
  | _ => none

def FileId.network? : FileId → Option Bytes
  | .compact _ _ _ n => some n
  | .bucketteer _ _ n => n
  | .manifest _ _ _ n => n
  | _ => none

/-- `IsDeprecatedOldVersion()` of the slot-to-cid / sig-to-cid readers -/
def Shape.isLegacy : Shape → Bool
  | .compactLegacy => true
  | _ => false

def Shape.carriesKind : Shape → Bool
  | .compact => true
  | _ => false

def Shape.carriesEpoch : Shape → Bool
  | .compact | .bucketteer | .manifest | .blocktime => true
  | _ => false

def Shape.carriesRoot : Shape → Bool
  | .compact | .bucketteer | .manifest => true
  | _ => false

def allShapes : List Shape := [.compact, .compactLegacy, .bucketteer, .bucketteerLegacy, .manifest, .blocktime, .unreadable]
def allRoles : List LRole :=
  [.cidToOffsetAndSize, .slotToCid, .sigToCid, .sigExists, .gsfaManifest, .gsfaPubkeyIndex, .slotToBlocktime]

theorem mem_allShapes (s : Shape) : s ∈ allShapes := by cases s <;> decide
theorem mem_allRoles (r : LRole) : r ∈ allRoles := by cases r <;> decide

def acceptsShape : LReader → Shape → Bool
  | .compact, .compact => true
  | .compactOrLegacy, .compact => true
  | .compactOrLegacy, .compactLegacy => true
  | .bucketteer, .bucketteer => true
  | .bucketteerLegacy, .bucketteerLegacy => true
  | .manifest, .manifest => true
  | .blocktime, .blocktime => true
  | _, _ => false

/-- does the reader open the file? (container format; the manifest reader also insists on its one version) -/
def accepts (rd : LReader) (f : FileId) : Bool :=
  acceptsShape rd f.shape &&
  match f with
  | .manifest v _ _ _ => v == Generated.gsfaManifestVersion
  | _ => true

/-- the part of a configuration that selects which files are opened and how -/
structure Mode where
  /-- `config.IsFilecoinMode()`; CAR mode otherwise -/
  filecoin : Bool
  /-- `config.IsDeprecatedIndexes()` -/
  deprecated : Bool
  /-- `!config.Indexes.Gsfa.URI.IsZero()` -/
  gsfa : Bool
deriving DecidableEq, Repr

structure Config where
  mode : Mode
  epoch : Nat
  filecoinRoot : Bytes
deriving Repr

abbrev FileSet := LRole → FileId

/-- which configuration slots the loader opens at all (the specification side; independent of the extracted chain):
    epoch.go `NewEpochFromConfig`, `if isCarMode { if config.IsDeprecatedIndexes() {…} else {…CidToOffsetAndSize…} }`;
    the gsfa files under `config.Indexes.Gsfa` -/
def opened (m : Mode) : LRole → Bool
  | .cidToOffsetAndSize => !m.filecoin && !m.deprecated
  | .gsfaManifest | .gsfaPubkeyIndex => m.gsfa
  | _ => true

/-- the kind every compact index must record (indexes.Kind_*), as bytes so that `decide` can compare them -/
def expectedKind : LRole → Bytes
  | .cidToOffsetAndSize => [99, 105, 100, 45, 116, 111, 45, 111, 102, 102, 115, 101, 116, 45, 97, 110, 100, 45, 115, 105, 122, 101]  -- "cid-to-offset-and-size"
  | .slotToCid => [115, 108, 111, 116, 45, 116, 111, 45, 99, 105, 100]  -- "slot-to-cid"
  | .sigToCid => [115, 105, 103, 45, 116, 111, 45, 99, 105, 100]  -- "sig-to-cid"
  | .gsfaPubkeyIndex => [112, 117, 98, 107, 101, 121, 45, 116, 111, 45, 111, 102, 102, 115, 101, 116, 45, 97, 110, 100, 45, 115, 105, 122, 101]  -- "pubkey-to-offset-and-size"
  | _ => []

/-! ### the loader = interpretation of the extracted chain -/

inductive Err where
  | reject (r : LRole)
  | filecoinRoot
  | unknown
deriving DecidableEq, Repr

abbrev Chain := List (List LGuard × LStep)

/-- `last` = the Go variable `lastRootCid` (`none` = cid.Undef) -/
def guardHolds (cfg : Config) (fs : FileSet) (last : Option Bytes) : LGuard → Bool
  | .carMode => !cfg.mode.filecoin
  | .filecoinMode => cfg.mode.filecoin
  | .deprecatedIndexes => cfg.mode.deprecated
  | .notDeprecatedIndexes => !cfg.mode.deprecated
  | .gsfaConfigured => cfg.mode.gsfa
  | .notLegacy r => !(fs r).shape.isLegacy
  | .lastRootSet => last.isSome
  -- only evaluated on a manifest NewManifest has accepted, i.e. of version `gsfaManifestVersion`
  | .manifestVersionGe2 => decide (Generated.gsfaManifestVersion ≥ 2)

def exec (cfg : Config) (fs : FileSet) (last : Option Bytes) : LStep → Except Err (Option Bytes)
  | .openAs r rd => if accepts rd (fs r) then .ok last else .error (.reject r)
  | .checkKind r k => if (fs r).kind? = some k then .ok last else .error (.reject r)
  | .checkNetworkValid r =>
    match (fs r).network? with
    | some n => if Generated.validNetworks.contains n then .ok last else .error (.reject r)
    | none => .error (.reject r)
  | .checkEpoch r => if (fs r).epoch? = some cfg.epoch then .ok last else .error (.reject r)
  | .checkRoot r =>
    match (fs r).root? with
    | some x => if last = some x then .ok last else .error (.reject r)
    | none => .error (.reject r)
  | .setLastRoot r =>
    match (fs r).root? with
    | some x => .ok (some x)
    | none => .error (.reject r)
  | .checkFilecoinRoot => if last = some cfg.filecoinRoot then .ok last else .error .filecoinRoot
  | .unknown _ => .error .unknown

def run (cfg : Config) (fs : FileSet) : Chain → Option Bytes → Except Err (Option Bytes)
  | [], last => .ok last
  | (g, st) :: rest, last =>
    if g.all (guardHolds cfg fs last) then
      match exec cfg fs last st with
      | .ok last' => run cfg fs rest last'
      | .error e => .error e
    else run cfg fs rest last

structure Loaded where
  epoch : Nat
  /-- `ep.rootCid` -/
  root : Option Bytes
deriving DecidableEq, Repr

def loadWith (chain : Chain) (cfg : Config) (fs : FileSet) : Except Err Loaded :=
  match run cfg fs chain none with
  | .ok last => .ok ⟨cfg.epoch, last⟩
  | .error e => .error e

/-- NewEpochFromConfig on the identities of the configured files -/
def load : Config → FileSet → Except Err Loaded := loadWith Generated.loadChecks

/-! ### static analysis of a chain (decidable) -/

def mentioned (chain : Chain) (r : LRole) : Bool := chain.any fun p => p.1.contains (.notLegacy r)

/-- roles whose old-format-ness some guard of the chain looks at -/
def legacyRoles (chain : Chain) : List LRole := allRoles.filter (mentioned chain)

structure Env where
  mode : Mode
  /-- which of `legacyRoles` hold an old-format file -/
  legacy : List LRole
deriving DecidableEq, Repr

def subsets {α} : List α → List (List α)
  | [] => [[]]
  | x :: xs => (subsets xs).map (x :: ·) ++ subsets xs

theorem filter_mem_subsets {α} (p : α → Bool) (l : List α) : l.filter p ∈ subsets l := by
  induction l with
  | nil => simp [subsets]
  | cons x xs ih =>
    simp only [List.filter, subsets]
    cases p x
    · exact List.mem_append_right _ ih
    · exact List.mem_append_left _ (List.mem_map.mpr ⟨_, ih, rfl⟩)

def allModes : List Mode :=
  [⟨false, false, false⟩, ⟨false, false, true⟩, ⟨false, true, false⟩, ⟨false, true, true⟩,
   ⟨true, false, false⟩, ⟨true, false, true⟩, ⟨true, true, false⟩, ⟨true, true, true⟩]

theorem mem_allModes (m : Mode) : m ∈ allModes := by
  rcases m with ⟨a, b, c⟩
  cases a <;> cases b <;> cases c <;> decide

def allEnvs (chain : Chain) : List Env :=
  allModes.flatMap fun m => (subsets (legacyRoles chain)).map fun l => ⟨m, l⟩

def envOf (chain : Chain) (cfg : Config) (fs : FileSet) : Env :=
  ⟨cfg.mode, (legacyRoles chain).filter fun r => (fs r).shape.isLegacy⟩

theorem envOf_mem (chain : Chain) (cfg : Config) (fs : FileSet) : envOf chain cfg fs ∈ allEnvs chain := by
  unfold allEnvs envOf
  exact List.mem_flatMap.mpr ⟨cfg.mode, mem_allModes _, List.mem_map.mpr ⟨_, filter_mem_subsets _ _, rfl⟩⟩

/-- abstract state: is `lastRootCid` set; the roles whose recorded root is known to equal it; has it been compared with
    the configured Filecoin root since it last changed -/
structure A where
  set : Bool
  S : List LRole
  fc : Bool
deriving DecidableEq, Repr

def a0 : A := ⟨false, [], false⟩

def aguard (e : Env) (a : A) : LGuard → Bool
  | .carMode => !e.mode.filecoin
  | .filecoinMode => e.mode.filecoin
  | .deprecatedIndexes => e.mode.deprecated
  | .notDeprecatedIndexes => !e.mode.deprecated
  | .gsfaConfigured => e.mode.gsfa
  | .notLegacy r => !e.legacy.contains r
  | .lastRootSet => a.set
  | .manifestVersionGe2 => decide (Generated.gsfaManifestVersion ≥ 2)

def astep (e : Env) (a : A) (p : List LGuard × LStep) : A :=
  if p.1.all (aguard e a) then
    match p.2 with
    | .checkRoot r => { a with S := r :: a.S }
    | .setLastRoot r => if a.S.contains r then { a with set := true } else ⟨true, [r], false⟩
    | .checkFilecoinRoot => { a with fc := true }
    | _ => a
  else a

def arun (e : Env) : Chain → A → A
  | [], a => a
  | p :: rest, a => arun e rest (astep e a p)

/-- a guard whose value cannot change while the chain runs -/
def stateless : LGuard → Bool
  | .lastRootSet => false
  | _ => true

def staticGuards (e : Env) (g : List LGuard) : Bool := g.all fun x => stateless x && aguard e a0 x

/-- the chain contains `st` under guards that all hold in `e` -/
def hasStep (e : Env) (chain : Chain) (st : LStep) : Bool := chain.any fun p => p.2 == st && staticGuards e p.1

/-- a file of shape `sh` in role `r` is refused by a reader the chain hands it to in `e` -/
def rejectedByOpen (e : Env) (chain : Chain) (r : LRole) (sh : Shape) : Bool :=
  chain.any fun p =>
    match p.2 with
    | .openAs r' rd => r' == r && !acceptsShape rd sh && staticGuards e p.1
    | _ => false

/-- a file of shape `sh` in role `r` is harmless: the shape cannot occur in `e`, or a reader refuses it at open, or every
    field it carries (kind, epoch, root) is checked by a step that runs in `e` -/
def roleOK (chain : Chain) (e : Env) (aF : A) (r : LRole) (sh : Shape) : Bool :=
  (mentioned chain r && (sh.isLegacy != e.legacy.contains r)) ||     -- shape impossible in this environment
  rejectedByOpen e chain r sh ||
  ((!sh.carriesKind || hasStep e chain (.checkKind r (expectedKind r))) &&
   (!sh.carriesEpoch || hasStep e chain (.checkEpoch r)) &&
   (!sh.carriesRoot || aF.S.contains r))

/-- in `e` every opened role is `roleOK` for every shape, and Filecoin mode compares the root with the configured one -/
def envOK (chain : Chain) (e : Env) : Bool :=
  let aF := arun e chain a0
  (allRoles.all fun r => !opened e.mode r || allShapes.all fun sh => roleOK chain e aF r sh) &&
  (!e.mode.filecoin || aF.fc)

def isUnknown : LStep → Bool
  | .unknown _ => true
  | _ => false

/-- the decidable test a chain has to pass -/
def chainOK (chain : Chain) : Bool :=
  (chain.all fun p => !isUnknown p.2) && (allEnvs chain).all (envOK chain)

/-! ### soundness of the static analysis -/

theorem accepts_shape (rd : LReader) (f : FileId) (h : accepts rd f = true) : acceptsShape rd f.shape = true := by
  unfold accepts at h
  simp only [Bool.and_eq_true] at h
  exact h.1

theorem stateless_guard (e : Env) (a a' : A) (g : LGuard) (h : stateless g = true) : aguard e a g = aguard e a' g := by
  cases g <;> simp_all [aguard, stateless]

theorem ite_ok {c : Prop} [Decidable c] {e : Err} {last last' : Option Bytes}
    (h : (if c then Except.ok last else .error e) = .ok last') : last' = last ∧ c := by
  by_cases hc : c
  · rw [if_pos hc] at h; cases h; exact ⟨rfl, hc⟩
  · rw [if_neg hc] at h; cases h

theorem shape_kind {f : FileId} {k : Bytes} (h : f.kind? = some k) : f.shape.carriesKind = true := by
  cases f <;> first | rfl | cases h
theorem shape_epoch {f : FileId} {e : Nat} (h : f.epoch? = some e) : f.shape.carriesEpoch = true := by
  cases f <;> first | rfl | cases h
theorem shape_root {f : FileId} {x : Bytes} (h : f.root? = some x) : f.shape.carriesRoot = true := by
  cases f <;> first | rfl | cases h

/-- from `!b ∨ X` (how the Boolean tests of `envOK` state an implication) and `b`, `X` -/
theorem of_not_or {b : Bool} {X : Prop} (h : b = false ∨ X) (hb : b = true) : X :=
  h.resolve_left (by rw [hb]; exact Bool.noConfusion)

section sound
variable (cfg : Config) (fs : FileSet)

theorem legacy_exact (chain : Chain) (r : LRole) (hm : mentioned chain r = true) :
    (envOf chain cfg fs).legacy.contains r = (fs r).shape.isLegacy := by
  unfold envOf legacyRoles
  simp only [List.filter_filter]
  cases hl : (fs r).shape.isLegacy
  · apply Bool.eq_false_iff.mpr
    intro hc
    have := List.mem_filter.mp (List.contains_iff_mem.mp hc)
    simp [hl] at this
  · apply List.contains_iff_mem.mpr
    exact List.mem_filter.mpr ⟨mem_allRoles r, by simp [hl, hm]⟩

/-- guards of `chain` evaluate the same way abstractly and concretely -/
theorem guard_agree (chain : Chain) (a : A) (last : Option Bytes) (hset : a.set = last.isSome) (g : LGuard)
    (hm : ∀ r, g = .notLegacy r → mentioned chain r = true) :
    aguard (envOf chain cfg fs) a g = guardHolds cfg fs last g := by
  cases g with
  | notLegacy r => simp only [aguard, guardHolds]; rw [legacy_exact cfg fs chain r (hm r rfl)]
  | lastRootSet => simp only [aguard, guardHolds]; exact hset
  | _ => simp [aguard, guardHolds, envOf]

theorem guards_agree (chain : Chain) (a : A) (last : Option Bytes) (hset : a.set = last.isSome) (gs : List LGuard)
    (hm : ∀ r, LGuard.notLegacy r ∈ gs → mentioned chain r = true) :
    gs.all (aguard (envOf chain cfg fs) a) = gs.all (guardHolds cfg fs last) := by
  induction gs with
  | nil => rfl
  | cons g rest ih =>
    simp only [List.all_cons]
    rw [guard_agree cfg fs chain a last hset g (fun r hr => hm r (by simp [hr])),
      ih (fun r hr => hm r (List.mem_cons_of_mem _ hr))]

theorem mentioned_of_mem (chain : Chain) (p : List LGuard × LStep) (hp : p ∈ chain) (r : LRole)
    (hr : LGuard.notLegacy r ∈ p.1) : mentioned chain r = true := by
  unfold mentioned
  exact List.any_eq_true.mpr ⟨p, hp, List.contains_iff_mem.mpr hr⟩

/-- static guards hold concretely in every state -/
theorem static_holds (chain : Chain) (p : List LGuard × LStep) (hp : p ∈ chain)
    (h : staticGuards (envOf chain cfg fs) p.1 = true) (last : Option Bytes) :
    p.1.all (guardHolds cfg fs last) = true := by
  unfold staticGuards at h
  rw [List.all_eq_true] at h ⊢
  intro g hg
  have hgs := h g hg
  simp only [Bool.and_eq_true] at hgs
  have hag := guard_agree cfg fs chain ⟨last.isSome, [], false⟩ last rfl g
    (fun r hr => mentioned_of_mem chain p hp r (hr ▸ hg))
  rw [← hag, ← stateless_guard _ a0 _ g hgs.1]
  exact hgs.2

/-- a step held under static guards ran, successfully, in SOME state of every successful run.  The state is not needed:
    what `exec_ok` reads off an `openAs`, `checkKind` or `checkEpoch` step does not mention it. -/
theorem run_mem (whole : Chain) (chain : Chain) (hsub : ∀ p ∈ chain, p ∈ whole) (last last' : Option Bytes)
    (h : run cfg fs chain last = .ok last') (p : List LGuard × LStep) (hp : p ∈ chain)
    (hg : staticGuards (envOf whole cfg fs) p.1 = true) :
    ∃ s1 s2, exec cfg fs s1 p.2 = .ok s2 := by
  induction chain generalizing last with
  | nil => cases hp
  | cons q rest ih =>
    obtain ⟨g, st⟩ := q
    simp only [run] at h
    rcases List.mem_cons.mp hp with rfl | hp'
    · have := static_holds cfg fs whole (g, st) (hsub _ (by simp)) hg last
      simp only at this
      rw [this] at h
      simp only [if_true] at h
      cases hex : exec cfg fs last st with
      | ok s2 => exact ⟨last, s2, hex⟩
      | error e => rw [hex] at h; cases h
    · have hsub' : ∀ p ∈ rest, p ∈ whole := fun p hp => hsub p (List.mem_cons_of_mem _ hp)
      split at h
      · cases hex : exec cfg fs last st with
        | ok s2 => rw [hex] at h; exact ih hsub' s2 h hp'
        | error e => rw [hex] at h; cases h
      · exact ih hsub' last h hp'

theorem exec_ok {last last' : Option Bytes} {st : LStep} (h : exec cfg fs last st = .ok last') :
    match st with
    | .openAs r rd => last' = last ∧ accepts rd (fs r) = true
    | .checkKind r k => last' = last ∧ (fs r).kind? = some k
    | .checkNetworkValid _ => last' = last
    | .checkEpoch r => last' = last ∧ (fs r).epoch? = some cfg.epoch
    | .checkRoot r => last' = last ∧ ∃ x, (fs r).root? = some x ∧ last = some x
    | .setLastRoot r => ∃ x, (fs r).root? = some x ∧ last' = some x
    | .checkFilecoinRoot => last' = last ∧ last = some cfg.filecoinRoot
    | .unknown _ => False := by
  cases st with
  | openAs r rd => exact ite_ok h
  | checkKind r k => exact ite_ok h
  | checkEpoch r => exact ite_ok h
  | checkFilecoinRoot => exact ite_ok h
  | unknown w => cases h
  | checkNetworkValid r =>
    rw [exec] at h
    cases hn : (fs r).network? with
    | none => rw [hn] at h; cases h
    | some n => rw [hn] at h; exact (ite_ok h).1
  | checkRoot r =>
    rw [exec] at h
    cases hr : (fs r).root? with
    | none => rw [hr] at h; cases h
    | some x => rw [hr] at h; exact ⟨(ite_ok h).1, x, hr, (ite_ok h).2⟩
  | setLastRoot r =>
    rw [exec] at h
    cases hr : (fs r).root? with
    | none => rw [hr] at h; cases h
    | some x => rw [hr] at h; cases h; exact ⟨x, hr, rfl⟩

/-- what the abstract state claims about the concrete one -/
def Inv (a : A) (last : Option Bytes) : Prop :=
  a.set = last.isSome ∧ (∀ r ∈ a.S, ∃ x, (fs r).root? = some x ∧ last = some x) ∧
  (a.fc = true → last = some cfg.filecoinRoot)

theorem astep_sound (whole : Chain) (p : List LGuard × LStep) (hp : p ∈ whole) (a : A) (last last' : Option Bytes)
    (hinv : Inv cfg fs a last)
    (hrun : (if p.1.all (guardHolds cfg fs last) then exec cfg fs last p.2 else .ok last) = .ok last') :
    Inv cfg fs (astep (envOf whole cfg fs) a p) last' := by
  obtain ⟨g, st⟩ := p
  unfold astep
  rw [guards_agree cfg fs whole a last hinv.1 g (fun r hr => mentioned_of_mem whole (g, st) hp r hr)]
  split at hrun
  · rename_i hg
    rw [if_pos hg]
    have hex := exec_ok cfg fs hrun
    obtain ⟨hset, hS, hfc⟩ := hinv
    cases st with
    | openAs r rd => exact hex.1 ▸ ⟨hset, hS, hfc⟩
    | checkKind r k => exact hex.1 ▸ ⟨hset, hS, hfc⟩
    | checkNetworkValid r => exact hex ▸ ⟨hset, hS, hfc⟩
    | checkEpoch r => exact hex.1 ▸ ⟨hset, hS, hfc⟩
    | checkRoot r =>
      obtain ⟨rfl, x, hx, hl⟩ := hex
      exact ⟨hset, fun r' hr' => (List.mem_cons.mp hr').elim (fun e => e ▸ ⟨x, hx, hl⟩) (hS r'), hfc⟩
    | setLastRoot r =>
      obtain ⟨x, hx, rfl⟩ := hex
      dsimp only
      split
      · -- `r` was already compared with `lastRootCid`: the assignment does not change it
        rename_i hc
        obtain ⟨y, hy, hly⟩ := hS r (List.contains_iff_mem.mp hc)
        have hxy : some x = last := by rw [hly, ← hy, hx]
        exact ⟨rfl, fun r' hr' => hxy ▸ hS r' hr', fun h => hxy ▸ hfc h⟩
      · exact ⟨rfl, fun r' hr' => List.mem_singleton.mp hr' ▸ ⟨x, hx, rfl⟩, fun h => nomatch h⟩
    | checkFilecoinRoot => exact hex.1 ▸ ⟨hset, hS, fun _ => hex.2⟩
    | unknown w => exact hex.elim
  · rename_i hg
    rw [if_neg hg]
    cases hrun
    exact hinv

theorem inv0 : Inv cfg fs a0 none :=
  ⟨rfl, fun r hr => (by cases hr), fun h => (by cases h)⟩

theorem arun_sound (whole : Chain) (chain : Chain) (hsub : ∀ p ∈ chain, p ∈ whole) (a : A) (last last' : Option Bytes)
    (hinv : Inv cfg fs a last) (h : run cfg fs chain last = .ok last') :
    Inv cfg fs (arun (envOf whole cfg fs) chain a) last' := by
  induction chain generalizing a last with
  | nil => cases h; exact hinv
  | cons q rest ih =>
    have hq := astep_sound cfg fs whole q (hsub q List.mem_cons_self) a last
    have hsub' : ∀ p ∈ rest, p ∈ whole := fun p hp => hsub p (List.mem_cons_of_mem _ hp)
    rw [run] at h
    split at h
    · rename_i hg
      rw [if_pos hg] at hq
      cases hex : exec cfg fs last q.2 with
      | ok s2 => rw [hex] at h; exact ih hsub' _ s2 (hq s2 hinv hex) h
      | error e => rw [hex] at h; cases h
    · rename_i hg
      rw [if_neg hg] at hq
      exact ih hsub' _ last (hq last hinv rfl) h

theorem envOK_of_chainOK (chain : Chain) (hok : chainOK chain = true) : envOK chain (envOf chain cfg fs) = true :=
  List.all_eq_true.mp (Bool.and_eq_true_iff.mp hok).2 _ (envOf_mem chain cfg fs)

theorem hasStep_exec (chain : Chain) (last : Option Bytes) (h : run cfg fs chain none = .ok last) (st : LStep)
    (hs : hasStep (envOf chain cfg fs) chain st = true) : ∃ s1 s2, exec cfg fs s1 st = .ok s2 := by
  obtain ⟨p, hp, hpp⟩ := List.any_eq_true.mp hs
  rw [Bool.and_eq_true, beq_iff_eq] at hpp
  exact hpp.1 ▸ run_mem cfg fs chain chain (fun _ hp => hp) none last h p hp hpp.2

/-- what `chainOK` buys for one opened role of a successfully loaded configuration -/
theorem role_facts (chain : Chain) (hok : chainOK chain = true) (last : Option Bytes)
    (h : run cfg fs chain none = .ok last) (r : LRole) (hop : opened cfg.mode r = true) :
    ((fs r).shape.carriesKind = true → (fs r).kind? = some (expectedKind r)) ∧
    ((fs r).shape.carriesEpoch = true → (fs r).epoch? = some cfg.epoch) ∧
    ((fs r).shape.carriesRoot = true → ∃ x, (fs r).root? = some x ∧ last = some x) := by
  have henv := envOK_of_chainOK cfg fs chain hok
  unfold envOK at henv
  simp only [Bool.and_eq_true, List.all_eq_true, Bool.or_eq_true, Bool.not_eq_true'] at henv
  have hsh := of_not_or (henv.1 r (mem_allRoles r)) hop
    (fs r).shape (mem_allShapes _)
  unfold roleOK at hsh
  simp only [Bool.or_eq_true, Bool.and_eq_true, bne_iff_ne, ne_eq, Bool.not_eq_true'] at hsh
  rcases hsh with (⟨hm, hne⟩ | hrej) | ⟨⟨hk, he⟩, hroot⟩
  · exact absurd (legacy_exact cfg fs chain r hm).symm hne
  · -- an open step refuses this shape, yet every open step under static guards succeeded
    obtain ⟨⟨g, st⟩, hp, hpp⟩ := List.any_eq_true.mp hrej
    cases st with
    | openAs r' rd =>
      simp only [Bool.and_eq_true, beq_iff_eq, Bool.not_eq_true'] at hpp
      obtain ⟨⟨rfl, hacc⟩, hsg⟩ := hpp
      obtain ⟨s1, s2, hex⟩ := run_mem cfg fs chain chain (fun _ hp => hp) none last h (g, .openAs r' rd) hp hsg
      rw [accepts_shape rd _ (exec_ok cfg fs hex).2] at hacc
      cases hacc
    | _ => cases hpp
  · refine ⟨fun hc => ?_, fun hc => ?_, fun hc => ?_⟩
    · obtain ⟨s1, s2, hex⟩ := hasStep_exec cfg fs chain last h _ (of_not_or hk hc)
      exact (exec_ok cfg fs hex).2
    · obtain ⟨s1, s2, hex⟩ := hasStep_exec cfg fs chain last h _ (of_not_or he hc)
      exact (exec_ok cfg fs hex).2
    · exact (arun_sound cfg fs chain chain (fun _ hp => hp) a0 none last (inv0 cfg fs) h).2.1 r
        (List.contains_iff_mem.mp (of_not_or hroot hc))

/-- **generic soundness**: any chain passing `chainOK` loads an epoch only from files of the expected kinds that all
    record the configured epoch and one common root CID (the configured one in Filecoin mode). -/
theorem loadWith_sound (chain : Chain) (hok : chainOK chain = true) (L : Loaded)
    (h : loadWith chain cfg fs = .ok L) :
    (∀ r, opened cfg.mode r = true → ∀ k, (fs r).kind? = some k → k = expectedKind r) ∧
    (∀ r, opened cfg.mode r = true → ∀ e, (fs r).epoch? = some e → e = cfg.epoch) ∧
    (∀ r, opened cfg.mode r = true → ∀ x, (fs r).root? = some x → L.root = some x) ∧
    (cfg.mode.filecoin = true → L.root = some cfg.filecoinRoot) ∧
    L.epoch = cfg.epoch := by
  unfold loadWith at h
  split at h
  · rename_i last hrun
    cases h
    have facts := role_facts cfg fs chain hok last hrun
    refine ⟨fun r hop k hk => ?_, fun r hop e he => ?_, fun r hop x hx => ?_, fun hf => ?_, rfl⟩
    · exact Option.some.inj (hk ▸ (facts r hop).1 (shape_kind hk))
    · exact Option.some.inj (he ▸ (facts r hop).2.1 (shape_epoch he))
    · obtain ⟨y, hy, hl⟩ := (facts r hop).2.2 (shape_root hx)
      exact hl.trans (hy ▸ hx)
    · have henv := envOK_of_chainOK cfg fs chain hok
      unfold envOK at henv
      simp only [Bool.and_eq_true, Bool.or_eq_true, Bool.not_eq_true'] at henv
      exact (arun_sound cfg fs chain chain (fun _ hp => hp) a0 none last (inv0 cfg fs) hrun).2.2
        (of_not_or henv.2 hf)
  · cases h

end sound

end EpochLoad
