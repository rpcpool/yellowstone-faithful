/-!
# Multi-frame payload reassembly (property C14)

Model of `/repo/tooling/data-frames.go` (`LoadDataFromDataFrames`, `getAllFramesFromDataFrame`),
`/repo/ipld/ipldbindcode/methods.go` (`VerifyHash`, `GetIndex/GetTotal/GetHash/GetNext`) and of the
per-transaction frame map of `/repo/accum/tx.go` (`ObjectsToTransactionsAndMetadata`).

What is modelled, line by line:

* a `DataFrame` is `(index?, total?, hash?, data, next)`; the three optional integers are Go `**int`
  (`index`/`total` read as `int`, `hash` as `uint64`); `next` absent, null or empty all read as "no next"
  (`GetNext` returns `ok = false` or a zero-length list; both return `[first]` unsorted);
* `getAllFramesFromDataFrame` = `collect`: `[f]` for a frame without `next`; otherwise the frame followed by
  the recursive results of its `next` links, fetched left to right through the getter (first error wins),
  **sorted at every level** by `sort.Slice` with `less i j = if !iOk || !jOk then iOk else iIndex < jIndex`;
* `sort.Slice` is not stable: the model takes the sort as a parameter `SortFn` (any function that returns a
  sorted permutation), all theorems quantify over it;
* `LoadDataFromDataFrames` = `load`: count check against the *first* frame's `total` when present, concatenation
  of the `data` fields in the sorted order, checksum check against the *first* frame's `hash` when present,
  `VerifyHash` accepting CRC-64/ISO **or** the legacy FNV-1a-64 of the whole buffer;
* the Go recursion has no bound: on a cyclic `next` graph it recurses until the stack is exhausted.  The model
  takes fuel; `Err.fuel` stands for "does not return" (`walk_cyclic`, `collect_fuel_mono`).  Unbounded
  recursion on a forged CAR is a matter for property C12, not C14.
* not modelled: `ipldbindcode.DisableHashVerification` (methods.go); it guards only the single-frame check of
  `GetSolanaTransaction`, neither `LoadDataFromDataFrames` nor the metadata path of `accum`.

Core Lean only.
-/

namespace Frames

abbrev Bytes := List UInt8
/-- CIDs are abstract names here; content addressing enters only through `Consistent` -/
abbrev Cid := Nat

structure Frame where
  index : Option Int
  total : Option Int
  hash  : Option Nat
  data  : Bytes
  next  : List Cid
deriving DecidableEq, Repr, Inhabited

inductive Err where
  | get    -- the frame getter failed (frame missing / undecodable)
  | count  -- `expected %d frames, got %d`
  | hash   -- `data hash mismatch`
  | fuel   -- the recursion did not finish (cyclic `next` graph in the real code: unbounded recursion)
deriving DecidableEq, Repr

inductive Res (α : Type) where
  | ok (a : α)
  | err (e : Err)
deriving DecidableEq, Repr

abbrev Store := Cid → Option Frame

/-! ## the comparator of `sort.Slice` -/

/-- Go: `if !iOk || !jOk { return iOk }; return iIndex < jIndex` -/
def less (a b : Frame) : Bool :=
  match a.index, b.index with
  | some i, some j => decide (i < j)
  | some _, none => true
  | none, _ => false

/-- "not after": `b` does not have to come before `a` -/
def le (a b : Frame) : Bool := !less b a

/-- what `sort.Slice` guarantees for a strict weak order: no later element is `less` than an earlier one -/
def Sorted (l : List Frame) : Prop := l.Pairwise (fun a b => le a b = true)

theorem le_total (a b : Frame) : (le a b || le b a) = true := by
  unfold le less
  cases a.index <;> cases b.index <;> simp
  omega

theorem le_trans (a b c : Frame) : le a b = true → le b c = true → le a c = true := by
  unfold le less
  cases a.index <;> cases b.index <;> cases c.index <;> simp
  omega

theorem le_antisymm_index (a b : Frame) (i j : Int) (ha : a.index = some i) (hb : b.index = some j) :
    le a b = true → le b a = true → i = j := by
  unfold le less
  rw [ha, hb]; simp
  omega

/-- any function returning a sorted permutation (the contract of `sort.Slice`; stability is not assumed) -/
structure SortFn where
  sort : List Frame → List Frame
  perm : ∀ l, (sort l).Perm l
  sorted : ∀ l, Sorted (sort l)

/-- insertion sort (structural, so `decide` can run it) -/
def insertF (x : Frame) : List Frame → List Frame
  | [] => [x]
  | y :: ys => if le x y then x :: y :: ys else y :: insertF x ys

def insSort : List Frame → List Frame
  | [] => []
  | x :: xs => insertF x (insSort xs)

theorem insertF_perm (x : Frame) (l : List Frame) : (insertF x l).Perm (x :: l) := by
  fun_induction insertF x l with
  | case1 => exact .refl _
  | case2 y ys _ => exact .refl _
  | case3 y ys _ ih => exact (ih.cons y).trans (.swap x y ys)

theorem insSort_perm (l : List Frame) : (insSort l).Perm l := by
  induction l with
  | nil => exact .refl _
  | cons x xs ih => exact (insertF_perm x _).trans (ih.cons x)

theorem insertF_sorted (x : Frame) (l : List Frame) (h : Sorted l) : Sorted (insertF x l) := by
  fun_induction insertF x l with
  | case1 => exact List.pairwise_singleton _ _
  | case2 y ys hxy =>
    refine List.pairwise_cons.2 ⟨fun z hz => ?_, h⟩
    rcases List.mem_cons.1 hz with rfl | hz
    · exact hxy
    · exact le_trans _ _ _ hxy (List.rel_of_pairwise_cons h hz)
  | case3 y ys hxy ih =>
    have hyx : le y x = true := by
      have := le_total x y
      simp only [Bool.or_eq_true] at this
      exact this.resolve_left hxy
    refine List.pairwise_cons.2 ⟨fun z hz => ?_, ih h.tail⟩
    rcases List.mem_cons.1 ((insertF_perm x ys).mem_iff.1 hz) with rfl | hz
    · exact hyx
    · exact List.rel_of_pairwise_cons h hz

theorem insSort_sorted (l : List Frame) : Sorted (insSort l) := by
  induction l with
  | nil => exact List.Pairwise.nil
  | cons x xs ih => exact insertF_sorted x _ ih

def SortFn.ins : SortFn := ⟨insSort, insSort_perm, insSort_sorted⟩

/-- core's merge sort (stable) is another instance -/
def SortFn.merge : SortFn where
  sort l := l.mergeSort le
  perm l := List.mergeSort_perm l le
  sorted l := List.pairwise_mergeSort (fun a b c => le_trans a b c) le_total l

/-- results of the `next` links, left to right, first error wins (the `for _, cid := range next` loop) -/
def gather (g : Cid → Res (List Frame)) : List Cid → Res (List Frame)
  | [] => .ok []
  | c :: cs =>
    match g c with
    | .err e => .err e
    | .ok a =>
      match gather g cs with
      | .err e => .err e
      | .ok b => .ok (a ++ b)

/-- `dataFrameGetter(ctx, cid)` then the recursive call -/
def fetch (get : Store) (k : Frame → Res (List Frame)) (c : Cid) : Res (List Frame) :=
  match get c with
  | none => .err .get
  | some g => k g

/-- `getAllFramesFromDataFrame` with the sort function `S` (a bare function, not a `SortFn`: the fuel and store lemmas
hold for any `S`; the theorems that need the contract take `S : SortFn` and pass `S.sort`) -/
def collect (S : List Frame → List Frame) (get : Store) : Nat → Frame → Res (List Frame)
  | 0, _ => .err .fuel
  | n+1, f =>
    if f.next = [] then .ok [f]
    else
      match gather (fetch get (fun g => collect S get n g)) f.next with
      | .err e => .err e
      | .ok r => .ok (S (f :: r))

/-- the same traversal without any sorting: the frames in the order they are fetched -/
def walk (get : Store) : Nat → Frame → Res (List Frame)
  | 0, _ => .err .fuel
  | n+1, f =>
    match gather (fetch get (fun g => walk get n g)) f.next with
    | .err e => .err e
    | .ok r => .ok (f :: r)

structure Hashes where
  crc : Bytes → Nat
  fnv : Bytes → Nat

/-- `ipldbindcode.VerifyHash`: CRC-64 first, then the legacy FNV -/
def verifyHash (H : Hashes) (b : Bytes) (h : Nat) : Bool := H.crc b == h || H.fnv b == h

def payloadOf (fs : List Frame) : Bytes := (fs.map (·.data)).flatten

/-- the part of `LoadDataFromDataFrames` after the frames have been collected -/
def finish (H : Hashes) (first : Frame) (fs : List Frame) : Res Bytes :=
  let countOk : Bool := match first.total with
    | some t => decide ((fs.length : Int) = t)
    | none => true
  if countOk then
    match first.hash with
    | none => .ok (payloadOf fs)
    | some h => if verifyHash H (payloadOf fs) h then .ok (payloadOf fs) else .err .hash
  else .err .count

/-- `finish` after the count test; on its own so that `load_layout` can state its answer whatever hash is recorded -/
def hashStep (H : Hashes) (h : Option Nat) (b : Bytes) : Res Bytes :=
  match h with
  | none => .ok b
  | some x => if verifyHash H b x then .ok b else .err .hash

/-- `LoadDataFromDataFrames` -/
def load (H : Hashes) (S : List Frame → List Frame) (get : Store) (fuel : Nat) (first : Frame) : Res Bytes :=
  match collect S get fuel first with
  | .err e => .err e
  | .ok fs => finish H first fs

theorem verifyHash_iff (H : Hashes) (b : Bytes) (x : Nat) : verifyHash H b x = true ↔ H.crc b = x ∨ H.fnv b = x := by
  simp only [verifyHash, Bool.or_eq_true, beq_iff_eq]

theorem hashStep_ok_iff {H : Hashes} {h : Option Nat} {b b' : Bytes} :
    hashStep H h b = .ok b' ↔ b' = b ∧ ∀ x, h = some x → H.crc b = x ∨ H.fnv b = x := by
  cases h with
  | none => simp [hashStep, eq_comm]
  | some x =>
    have hx : (∀ y, some x = some y → H.crc b = y ∨ H.fnv b = y) ↔ verifyHash H b x = true := by
      rw [verifyHash_iff]; exact ⟨fun h => h x rfl, fun h y hy => Option.some.inj hy ▸ h⟩
    rw [hx, hashStep]
    by_cases hv : verifyHash H b x = true <;> simp [hv, eq_comm]

theorem finish_of_count {H : Hashes} {first : Frame} {fs : List Frame}
    (h : ∀ t, first.total = some t → (fs.length : Int) = t) :
    finish H first fs = hashStep H first.hash (payloadOf fs) := by
  have hc : (match first.total with
      | some t => decide ((fs.length : Int) = t)
      | none => true) = true := by
    cases ht : first.total with
    | none => rfl
    | some t => exact decide_eq_true (h t ht)
  unfold finish
  simp only [hc, if_true]
  rfl

theorem finish_count_err {H : Hashes} {first : Frame} {fs : List Frame} {t : Int} (ht : first.total = some t)
    (hne : (fs.length : Int) ≠ t) : finish H first fs = .err .count := by
  unfold finish
  simp only [ht, decide_eq_false hne, Bool.false_eq_true, if_false]

theorem finish_ok_iff {H : Hashes} {first : Frame} {fs : List Frame} {b : Bytes} :
    finish H first fs = .ok b ↔
      (∀ t, first.total = some t → (fs.length : Int) = t) ∧ hashStep H first.hash (payloadOf fs) = .ok b := by
  by_cases hc : ∀ t, first.total = some t → (fs.length : Int) = t
  · rw [finish_of_count hc]; exact (and_iff_right hc).symm
  · have : finish H first fs = .err .count := by
      cases ht : first.total with
      | none => exact absurd (fun t h => by rw [ht] at h; cases h) hc
      | some t => exact finish_count_err ht (fun h => hc (fun t' ht' => by rw [ht] at ht'; cases ht'; exact h))
    rw [this]
    exact ⟨fun h => (by cases h), fun h => absurd h.1 hc⟩

theorem gather_cons_ok {g : Cid → Res (List Frame)} {c : Cid} {cs : List Cid} {r : List Frame} :
    gather g (c :: cs) = .ok r ↔ ∃ a b, g c = .ok a ∧ gather g cs = .ok b ∧ r = a ++ b := by
  rw [gather]
  cases g c <;> cases gather g cs <;> simp [eq_comm]

theorem fetch_ok {get : Store} {k : Frame → Res (List Frame)} {c : Cid} {a : List Frame} :
    fetch get k c = .ok a ↔ ∃ g, get c = some g ∧ k g = .ok a := by
  unfold fetch
  cases get c <;> simp

theorem walk_succ_ok {get : Store} {n : Nat} {f : Frame} {ws : List Frame} :
    walk get (n+1) f = .ok ws ↔ ∃ r, gather (fetch get fun g => walk get n g) f.next = .ok r ∧ ws = f :: r := by
  rw [walk]
  cases gather (fetch get fun g => walk get n g) f.next <;> simp [eq_comm]

theorem gather_ok_mem (g : Cid → Res (List Frame)) (l : List Cid) (r : List Frame) (h : gather g l = .ok r) :
    ∀ c ∈ l, ∃ a, g c = .ok a := by
  induction l generalizing r with
  | nil => intro c hc; cases hc
  | cons x xs ih =>
    obtain ⟨a, b, ha, hb, _⟩ := gather_cons_ok.1 h
    intro c hc
    rcases List.mem_cons.1 hc with rfl | hc
    · exact ⟨a, ha⟩
    · exact ih b hb c hc

theorem walk_ok_link {get : Store} {n : Nat} {f : Frame} {ws : List Frame} (h : walk get n f = .ok ws) {c : Cid}
    (hc : c ∈ f.next) : ∃ g a m, get c = some g ∧ m < n ∧ walk get m g = .ok a := by
  cases n with
  | zero => cases h
  | succ n =>
    obtain ⟨r, h1, _⟩ := walk_succ_ok.1 h
    obtain ⟨a, ha⟩ := gather_ok_mem _ _ r h1 c hc
    obtain ⟨g, hg, hga⟩ := fetch_ok.1 ha
    exact ⟨g, a, n, hg, Nat.lt_succ_self n, hga⟩

theorem walk_ok_cons (get : Store) (n : Nat) (f : Frame) (ws : List Frame) (h : walk get n f = .ok ws) :
    ∃ r, ws = f :: r := by
  cases n with
  | zero => cases h
  | succ n => obtain ⟨r, _, hr⟩ := walk_succ_ok.1 h; exact ⟨r, hr⟩

/-! ## `collect` is a sorted permutation of `walk` -/

/-- relation between a sorted and an unsorted traversal result; errors must be equal: the first error wins, and which
error comes first does not depend on the sorting -/
def RelP : Res (List Frame) → Res (List Frame) → Prop
  | .ok a, .ok b => a.Perm b
  | .err e, .err e' => e = e'
  | _, _ => False

theorem gather_rel (g g' : Cid → Res (List Frame)) (l : List Cid)
    (h : ∀ c ∈ l, RelP (g c) (g' c)) : RelP (gather g l) (gather g' l) := by
  induction l with
  | nil => simp [gather, RelP]
  | cons c cs ih =>
    have hc := h c (List.mem_cons_self ..)
    have hcs := ih (fun x hx => h x (List.mem_cons_of_mem _ hx))
    unfold gather
    cases h1 : g c <;> cases h2 : g' c <;> simp only [h1, h2, RelP] at hc ⊢
    · cases h3 : gather g cs <;> cases h4 : gather g' cs <;> simp only [h3, h4, RelP] at hcs ⊢
      · exact hc.append hcs
      · exact hcs
    · exact hc

theorem fetch_rel (get : Store) (k k' : Frame → Res (List Frame)) (h : ∀ g, RelP (k g) (k' g)) (c : Cid) :
    RelP (fetch get k c) (fetch get k' c) := by
  unfold fetch
  cases get c with
  | none => simp [RelP]
  | some g => exact h g

theorem collect_rel_walk (S : SortFn) (get : Store) (n : Nat) (f : Frame) :
    RelP (collect S.sort get n f) (walk get n f) := by
  induction n generalizing f with
  | zero => simp [collect, walk, RelP]
  | succ n ih =>
    unfold collect walk
    by_cases hn : f.next = []
    · simp [hn, gather, RelP]
    · simp only [hn, if_false]
      have := gather_rel _ _ f.next (fun c _ => fetch_rel get _ _ (fun g => ih g) c)
      cases h1 : gather (fetch get fun g => collect S.sort get n g) f.next <;>
        cases h2 : gather (fetch get fun g => walk get n g) f.next <;>
        simp only [h1, h2, RelP] at this ⊢
      · exact (S.perm _).trans (List.Perm.cons f this)
      · exact this

theorem collect_sorted (S : SortFn) (get : Store) (n : Nat) (f : Frame) (fs : List Frame)
    (h : collect S.sort get n f = .ok fs) : Sorted fs := by
  cases n with
  | zero => cases h
  | succ n =>
    rw [collect] at h
    split at h
    · cases h; exact List.pairwise_singleton _ _
    · split at h
      · cases h
      · cases h; exact S.sorted _

theorem RelP.of_ok_left {a : List Frame} {r : Res (List Frame)} (h : RelP (.ok a) r) : ∃ b, r = .ok b ∧ a.Perm b := by
  cases r with
  | ok b => exact ⟨b, rfl, h⟩
  | err e => exact False.elim h

theorem RelP.of_ok_right {b : List Frame} {r : Res (List Frame)} (h : RelP r (.ok b)) : ∃ a, r = .ok a ∧ a.Perm b := by
  cases r with
  | ok a => exact ⟨a, rfl, h⟩
  | err e => exact False.elim h

theorem RelP.err_iff {r r' : Res (List Frame)} (h : RelP r r') (e : Err) : r = .err e ↔ r' = .err e := by
  cases r <;> cases r' <;> simp_all [RelP]

/-- the frames `collect` returns are a sorted permutation of the frames the walk fetches; errors coincide -/
theorem collect_ok_iff (S : SortFn) (get : Store) (n : Nat) (f : Frame) (fs : List Frame) :
    collect S.sort get n f = .ok fs → ∃ ws, walk get n f = .ok ws ∧ fs.Perm ws ∧ Sorted fs := by
  intro h
  obtain ⟨ws, hw, hp⟩ := (h ▸ collect_rel_walk S get n f).of_ok_left
  exact ⟨ws, hw, hp, collect_sorted S get n f fs h⟩

theorem collect_of_walk (S : SortFn) (get : Store) (n : Nat) (f : Frame) (ws : List Frame)
    (hw : walk get n f = .ok ws) : ∃ fs, collect S.sort get n f = .ok fs ∧ fs.Perm ws ∧ Sorted fs := by
  obtain ⟨fs, hc, hp⟩ := (hw ▸ collect_rel_walk S get n f).of_ok_right
  exact ⟨fs, hc, hp, collect_sorted S get n f fs hc⟩

theorem collect_err_iff (S : SortFn) (get : Store) (n : Nat) (f : Frame) (e : Err) :
    collect S.sort get n f = .err e ↔ walk get n f = .err e :=
  (collect_rel_walk S get n f).err_iff e

/-! ## fuel: answers other than `fuel` do not depend on the fuel; cyclic graphs never return -/

/-- an error of `gather` is the error of one component, so a property `Q` of the gathered result that every `ok` has
passes to each component that is reached: components may be replaced by ones that agree wherever `Q` holds -/
theorem gather_transfer (Q : Res (List Frame) → Prop) (hQ : ∀ a, Q (.ok a))
    (g g' : Cid → Res (List Frame)) (l : List Cid)
    (h : ∀ c ∈ l, Q (g c) → g' c = g c) (hq : Q (gather g l)) : gather g' l = gather g l := by
  induction l with
  | nil => rfl
  | cons c cs ih =>
    have hc := h c (List.mem_cons_self ..)
    have ih' := ih (fun x hx => h x (List.mem_cons_of_mem _ hx))
    unfold gather at hq ⊢
    cases h1 : g c with
    | err e =>
      rw [h1] at hq hc
      rw [hc hq]
    | ok a =>
      rw [h1] at hq hc
      rw [hc (hQ a)]
      simp only at hq ⊢
      cases h2 : gather g cs with
      | err e => rw [h2] at hq ih'; simp only at hq; rw [ih' hq]
      | ok b => rw [h2] at ih'; rw [ih' (hQ b)]

def NotFuel (r : Res (List Frame)) : Prop := r ≠ .err .fuel

theorem gather_fuel_succ (get : Store) (T : Nat → Frame → Res (List Frame)) (n : Nat)
    (ih : ∀ g, NotFuel (T n g) → T (n+1) g = T n g) (l : List Cid) (hg : NotFuel (gather (fetch get (T n)) l)) :
    gather (fetch get (T (n+1))) l = gather (fetch get (T n)) l :=
  gather_transfer NotFuel (fun _ h => nomatch h) _ _ l
    (fun c _ hq => by
      unfold fetch at hq ⊢
      cases hc : get c with
      | none => rfl
      | some g => rw [hc] at hq; exact ih g hq) hg

theorem walk_fuel_succ (get : Store) (n : Nat) (f : Frame) (h : NotFuel (walk get n f)) :
    walk get (n+1) f = walk get n f := by
  induction n generalizing f with
  | zero => exact absurd rfl h
  | succ n ih =>
    have hg : NotFuel (gather (fetch get (walk get n)) f.next) := fun hc => h (by rw [walk, hc])
    rw [walk, gather_fuel_succ get (walk get) n ih f.next hg, walk]

theorem collect_fuel_succ (S : List Frame → List Frame) (get : Store) (n : Nat) (f : Frame)
    (h : NotFuel (collect S get n f)) : collect S get (n+1) f = collect S get n f := by
  induction n generalizing f with
  | zero => exact absurd rfl h
  | succ n ih =>
    by_cases hn : f.next = []
    · rw [collect, collect, if_pos hn, if_pos hn]
    · have hg : NotFuel (gather (fetch get (collect S get n)) f.next) := fun hc => h (by rw [collect, if_neg hn, hc])
      rw [collect, gather_fuel_succ get (collect S get) n ih f.next hg, collect]

/-- once `collect` has answered (frames or a real error) more fuel gives the same answer -/
theorem collect_fuel_mono (S : List Frame → List Frame) (get : Store) (n m : Nat) (f : Frame)
    (h : NotFuel (collect S get n f)) (hnm : n ≤ m) : collect S get m f = collect S get n f := by
  induction hnm with
  | refl => rfl
  | step _ ih => rw [collect_fuel_succ S get _ f (ih ▸ h), ih]

/-- `g` is reachable from `f` through `next` links present in the store (one or more steps) -/
inductive Reach (get : Store) : Frame → Frame → Prop
  | step {f g : Frame} {c : Cid} : c ∈ f.next → get c = some g → Reach get f g
  | trans {f g h : Frame} : Reach get f g → Reach get g h → Reach get f h

theorem walk_ok_reach (get : Store) (n : Nat) (f g : Frame) (hr : Reach get f g) :
    ∀ ws, walk get n f = .ok ws → ∃ m ws', m < n ∧ walk get m g = .ok ws' := by
  induction hr generalizing n with
  | @step f g c hc hg =>
    intro ws hw
    obtain ⟨g', a, m, hg', hm, ha⟩ := walk_ok_link hw hc
    cases hg.symm.trans hg'
    exact ⟨m, a, hm, ha⟩
  | trans _ _ ih1 ih2 =>
    intro ws hw
    obtain ⟨m, ws', hm, hw'⟩ := ih1 n ws hw
    obtain ⟨m', ws'', hm', hw''⟩ := ih2 m ws' hw'
    exact ⟨m', ws'', Nat.lt_trans hm' hm, hw''⟩

/-- the walk from a frame that reaches itself never succeeds: it would succeed on less fuel as well -/
theorem walk_cyclic {get : Store} {f : Frame} (hcyc : Reach get f f) (n : Nat) : ∀ ws, walk get n f ≠ .ok ws := by
  induction n using Nat.strongRecOn with
  | _ n ih =>
    intro ws hw
    obtain ⟨m, ws', hm, hw'⟩ := walk_ok_reach get n f f hcyc ws hw
    exact ih m hm ws' hw'

/-! ## an `ok` answer survives a bigger store (used for the per-transaction map of `accum`) -/

theorem gather_ok_congr {g g' : Cid → Res (List Frame)} {l : List Cid} {r : List Frame}
    (h : ∀ c ∈ l, ∀ a, g c = .ok a → g' c = .ok a) (hr : gather g l = .ok r) : gather g' l = .ok r := by
  induction l generalizing r with
  | nil => exact hr
  | cons c cs ih =>
    obtain ⟨a, b, ha, hb, rfl⟩ := gather_cons_ok.1 hr
    exact gather_cons_ok.2
      ⟨a, b, h c List.mem_cons_self a ha, ih (fun x hx => h x (List.mem_cons_of_mem _ hx)) hb, rfl⟩

theorem collect_store_mono (S : List Frame → List Frame) (get get' : Store)
    (hsub : ∀ c g, get c = some g → get' c = some g) (n : Nat) (f : Frame) (fs : List Frame)
    (h : collect S get n f = .ok fs) : collect S get' n f = .ok fs := by
  induction n generalizing f fs with
  | zero => cases h
  | succ n ih =>
    rw [collect] at h ⊢
    by_cases hn : f.next = []
    · rwa [if_pos hn] at h ⊢
    · rw [if_neg hn] at h ⊢
      cases h1 : gather (fetch get fun g => collect S get n g) f.next with
      | err e => rw [h1] at h; cases h
      | ok r =>
        have := gather_ok_congr (g' := fetch get' fun g => collect S get' n g) (fun c _ a ha => by
          obtain ⟨g, hg, hga⟩ := fetch_ok.1 ha
          exact fetch_ok.2 ⟨g, hsub c g hg, ih g a hga⟩) h1
        rw [this]; rwa [h1] at h

theorem load_store_mono (H : Hashes) (S : List Frame → List Frame) (get get' : Store)
    (hsub : ∀ c g, get c = some g → get' c = some g) (n : Nat) (f : Frame) (b : Bytes)
    (h : load H S get n f = .ok b) : load H S get' n f = .ok b := by
  unfold load at h ⊢
  cases hc : collect S get n f with
  | err e => rw [hc] at h; cases h
  | ok fs => rw [hc] at h; rw [collect_store_mono S get get' hsub n f fs hc]; exact h

/-! ## reassembly of a well-formed frame set -/

/-- indices present and strictly increasing along the list -/
def StrictIdx (l : List Frame) : Prop :=
  l.Pairwise (fun a b => ∃ i j, a.index = some i ∧ b.index = some j ∧ i < j)

theorem pairwise_mem_cases {α : Type} {R : α → α → Prop} {l : List α} (h : l.Pairwise R) {a b : α}
    (ha : a ∈ l) (hb : b ∈ l) : a = b ∨ R a b ∨ R b a := by
  induction l with
  | nil => cases ha
  | cons x xs ih =>
    have hx := List.pairwise_cons.mp h
    rcases List.mem_cons.mp ha with h1 | h1 <;> rcases List.mem_cons.mp hb with h2 | h2
    · exact Or.inl (h1.trans h2.symm)
    · subst h1; exact Or.inr (Or.inl (hx.1 b h2))
    · subst h2; exact Or.inr (Or.inr (hx.1 a h1))
    · exact ih hx.2 h1 h2

theorem StrictIdx.sorted {l : List Frame} (h : StrictIdx l) : Sorted l := by
  refine List.Pairwise.imp ?_ h
  intro a b ⟨i, j, ha, hb, hij⟩
  unfold le less; rw [ha, hb]; simp; omega

/-- a sorted permutation of a list with distinct present indices is that list: the unstable sort has no freedom -/
theorem sorted_perm_unique {fs canon : List Frame} (hc : StrictIdx canon) (hp : fs.Perm canon) (hs : Sorted fs) :
    fs = canon := by
  refine List.Perm.eq_of_pairwise ?_ hs hc.sorted hp
  intro a b ha hb hab hba
  have ha' := hp.mem_iff.mp ha
  rcases pairwise_mem_cases hc ha' hb with h | ⟨i, j, hi, hj, hij⟩ | ⟨i, j, hi, hj, hij⟩
  · exact h
  · have := le_antisymm_index a b i j hi hj hab hba; omega
  · have := le_antisymm_index b a i j hi hj hba hab; omega

/-- whatever the shape of the link graph and the order in which the frames are fetched: if the walk
delivers exactly the frames `canon` (each once, in any order) and these carry distinct indices, the
sorted result is `canon` itself -/
theorem collect_of_walk_perm (S : SortFn) (get : Store) (n : Nat) (first : Frame) (ws canon : List Frame)
    (hw : walk get n first = .ok ws) (hp : ws.Perm canon) (hc : StrictIdx canon) :
    collect S.sort get n first = .ok canon := by
  obtain ⟨fs, hfs, hperm, hsorted⟩ := collect_of_walk S get n first ws hw
  rw [hfs, sorted_perm_unique hc (hperm.trans hp) hsorted]

/-! ## the layout of the schema comment -/

/-- the `next` links of frame `j` out of `k` with fan-out `F`, as in the comment of `ledger.ipldsch`:
frame `0` links to `1..F`, frame `F` (the last of those) to `F+1..2F`, and so on; other frames link to nothing -/
def nextOf (k F j : Nat) : List Cid :=
  if j % F = 0 then List.range' (j+1) (min F (k-1-j)) else []

/-- frame `j` of the payload `chunks.flatten`; `σ j` is the order in which frame `j` lists its links -/
def mkFrame (chunks : List Bytes) (F : Nat) (tot : Bool) (h : Option Nat) (σ : Nat → List Cid → List Cid)
    (j : Nat) : Frame :=
  { index := some (j : Int)
    total := if tot then some (chunks.length : Int) else none
    hash := h
    data := chunks.getD j []
    next := σ j (nextOf chunks.length F j) }

/-- the store a writer following the comment fills (CID of frame `j` is `j`) -/
def layoutStore (chunks : List Bytes) (F : Nat) (tot : Bool) (h : Option Nat) (σ : Nat → List Cid → List Cid) :
    Store :=
  fun c => if c < chunks.length then some (mkFrame chunks F tot h σ c) else none

theorem flatMap_singleton_eq_map {α β : Type} (l : List α) (r : α → List β) (m : α → β)
    (h : ∀ x ∈ l, r x = [m x]) : l.flatMap r = l.map m := by
  induction l with
  | nil => rfl
  | cons x xs ih =>
    simp only [List.flatMap_cons, List.map_cons]
    rw [h x (List.mem_cons_self ..), ih (fun y hy => h y (List.mem_cons_of_mem _ hy))]
    rfl

theorem gather_perm_spec (g : Cid → Res (List Frame)) (r : Cid → List Frame) (l : List Cid)
    (h : ∀ x ∈ l, ∃ a, g x = .ok a ∧ a.Perm (r x)) : ∃ b, gather g l = .ok b ∧ b.Perm (l.flatMap r) := by
  induction l with
  | nil => exact ⟨[], rfl, List.Perm.refl _⟩
  | cons x xs ih =>
    obtain ⟨a, ha, hpa⟩ := h x (List.mem_cons_self ..)
    obtain ⟨b, hb, hpb⟩ := ih (fun y hy => h y (List.mem_cons_of_mem _ hy))
    refine ⟨a ++ b, ?_, ?_⟩
    · unfold gather; rw [ha]; simp only; rw [hb]
    · simp only [List.flatMap_cons]; exact hpa.append hpb

/-- in a group of links `j+1 … j+F` below the chain frame `j` only the last one is a chain frame again -/
theorem not_chain {F j x : Nat} (hj : j % F = 0) (h1 : j < x) (h2 : x < j + F) : x % F ≠ 0 := by
  obtain ⟨t, rfl⟩ := Nat.exists_eq_add_of_lt h1
  rw [Nat.add_assoc] at h2 ⊢
  rw [Nat.add_mod, hj, Nat.zero_add, Nat.mod_mod, Nat.mod_eq_of_lt (Nat.lt_of_add_lt_add_left h2)]
  exact Nat.succ_ne_zero t

/-- a link `x` of chain frame `j` lies inside the layout and the measure `k - x` of `layout_walk` decreases; stated apart
because `omega` does not get through the `min` and the `Cid`-typed hypotheses where it is used -/
theorem link_lt {j k m x : Nat} (h1 : j + 1 ≤ x) (h2 : x < j + 1 + m) (hm : m ≤ k - 1 - j) : x < k ∧ k - x < k - j := by
  have hxk : x < k := by omega
  exact ⟨hxk, Nat.sub_lt_sub_left (Nat.lt_trans h1 hxk) h1⟩

theorem walk_leaf (get : Store) (n : Nat) (f : Frame) (h : f.next = []) : walk get (n+1) f = .ok [f] := by
  unfold walk; rw [h]; rfl

/-! The walk over a layout, for any family `fr` of `k` frames whose frame `j` lists the links `nextOf k F j` in some
order: nothing else about the frames matters. -/

/-- what the walk delivers below link `x` -/
def below (fr : Nat → Frame) (k F x : Nat) : List Frame :=
  if x % F = 0 then (List.range' x (k - x)).map fr else [fr x]

theorem below_flatMap (fr : Nat → Frame) (k F j : Nat) (hF : 0 < F) (hj : j % F = 0) :
    (List.range' (j+1) (min F (k-1-j))).flatMap (below fr k F) = (List.range' (j+1) (k-1-j)).map fr := by
  -- `F = G + 1`: the bound `m ≤ G` in `leaf` needs the predecessor
  cases F with
  | zero => exact absurd hF (Nat.lt_irrefl 0)
  | succ G =>
  have leaf : ∀ m, m ≤ G → (List.range' (j+1) m).flatMap (below fr k (G+1)) = (List.range' (j+1) m).map fr := by
    intro m hm
    refine flatMap_singleton_eq_map _ _ _ (fun x hx => if_neg ?_)
    obtain ⟨h1, h2⟩ := List.mem_range'_1.1 hx
    exact not_chain hj h1 (by omega)
  by_cases hc : G + 1 ≤ k - 1 - j
  · -- a full group: `G` leaves, then the next chain frame with everything after it
    have hs : (j + 1 + 1 * G) % (G + 1) = 0 := by
      rw [Nat.one_mul, Nat.add_assoc, Nat.add_comm 1 G, Nat.add_mod_right]; exact hj
    rw [Nat.min_eq_left hc, List.range'_concat, List.flatMap_append, leaf G (Nat.le_refl _), List.flatMap_cons,
      List.flatMap_nil, List.append_nil, below, if_pos hs, ← List.map_append, List.range'_append]
    congr 2; omega
  · -- fewer than `F` frames remain: all of them are leaves
    rw [Nat.min_eq_right (Nat.le_of_lt (Nat.not_le.1 hc))]
    exact leaf _ (Nat.le_of_lt_succ (Nat.not_le.1 hc))

/-- the walk from chain frame `j` with fuel `n` delivers the frames `j … k-1`, in some order.  Induction on a bound `d` for
the number `k - j` of frames still to come; a link leads to a leaf or to the next chain frame, where fewer remain. -/
theorem layout_walk (fr : Nat → Frame) (k F : Nat) (hF : 0 < F) (hnext : ∀ j, (fr j).next.Perm (nextOf k F j))
    (get : Store) (hget : ∀ c, c < k → get c = some (fr c)) :
    ∀ d j n, j % F = 0 → j < k → k - j ≤ d → d ≤ n →
      ∃ ws, walk get n (fr j) = .ok ws ∧ ws.Perm ((List.range' j (k - j)).map fr) := by
  intro d
  induction d with
  | zero => intro j n _ hjk hd _; exact absurd hd (Nat.not_le.2 (Nat.sub_pos_of_lt hjk))
  | succ d ih =>
    intro j n hj hjk hd hn
    cases n with
    | zero => exact absurd hn (Nat.not_succ_le_zero d)
    | succ n =>
    have hdn : d ≤ n := Nat.le_of_succ_le_succ hn
    have hlinks : (fr j).next.Perm (List.range' (j+1) (min F (k-1-j))) := by
      have := hnext j; rwa [nextOf, if_pos hj] at this
    have hmem : ∀ x ∈ (fr j).next, ∃ a, fetch get (fun g => walk get n g) x = .ok a ∧ a.Perm (below fr k F x) := by
      intro x hx
      obtain ⟨h1, h2⟩ := List.mem_range'_1.1 (hlinks.mem_iff.1 hx)
      obtain ⟨hxk, hlt⟩ := link_lt h1 h2 (Nat.min_le_right _ _)
      have hxd : k - x ≤ d := Nat.le_of_lt_succ (Nat.lt_of_lt_of_le hlt hd)
      unfold fetch below
      rw [hget x hxk]
      by_cases hm : x % F = 0
      · rw [if_pos hm]; exact ih x n hm hxk hxd hdn
      · cases n with
        | zero => exact absurd (Nat.le_trans hxd hdn) (Nat.not_le.2 (Nat.sub_pos_of_lt hxk))
        | succ n =>
          have hleaf : (fr x).next = [] := by
            have := hnext x; rw [nextOf, if_neg hm] at this; exact this.eq_nil
          rw [if_neg hm]
          exact ⟨_, walk_leaf get n _ hleaf, List.Perm.refl _⟩
    obtain ⟨b, hb, hpb⟩ := gather_perm_spec _ (below fr k F) _ hmem
    refine ⟨fr j :: b, by unfold walk; rw [hb], ?_⟩
    rw [show k - j = (k - 1 - j) + 1 by omega, List.range'_succ, List.map_cons]
    refine List.Perm.cons _ (hpb.trans ((List.Perm.flatMap_right _ hlinks).trans ?_))
    rw [below_flatMap fr k F j hF hj]

theorem canon_strict (chunks : List Bytes) (F : Nat) (tot : Bool) (h : Option Nat) (σ : Nat → List Cid → List Cid)
    (j m : Nat) : StrictIdx ((List.range' j m).map (mkFrame chunks F tot h σ)) := by
  unfold StrictIdx
  rw [List.pairwise_map]
  refine List.Pairwise.imp ?_ (List.pairwise_lt_range' (s := j) (n := m) 1)
  intro a b hab
  exact ⟨(a : Int), (b : Int), rfl, rfl, by omega⟩

theorem canon_payload (chunks : List Bytes) (F : Nat) (tot : Bool) (h : Option Nat) (σ : Nat → List Cid → List Cid) :
    payloadOf ((List.range' 0 chunks.length).map (mkFrame chunks F tot h σ)) = chunks.flatten := by
  unfold payloadOf
  congr 1
  apply List.ext_getElem
  · simp
  · intro i h1 h2
    simp [mkFrame] at h1 ⊢
    simp [List.getElem?_eq_getElem h1]

/-! ## what `load` answers on a layout, whatever hash the first frame carries -/

theorem load_layout (H : Hashes) (S : SortFn) (chunks : List Bytes) (F : Nat) (tot : Bool) (h : Option Nat)
    (σ : Nat → List Cid → List Cid) (hne : chunks ≠ []) (hF : 0 < F) (hσ : ∀ j l, (σ j l).Perm l)
    (get : Store) (hget : ∀ c, c < chunks.length → get c = some (mkFrame chunks F tot h σ c))
    (n : Nat) (hn : chunks.length ≤ n) :
    load H S.sort get n (mkFrame chunks F tot h σ 0) = hashStep H h chunks.flatten := by
  have hk : 0 < chunks.length := List.length_pos_iff.mpr hne
  obtain ⟨ws, hw, hp⟩ := layout_walk (mkFrame chunks F tot h σ) chunks.length F hF (fun j => hσ j _) get hget
    chunks.length 0 n (Nat.zero_mod F) hk (by omega) hn
  simp only [Nat.sub_zero] at hp
  unfold load
  rw [collect_of_walk_perm S get n _ ws _ hw hp (canon_strict chunks F tot h σ 0 chunks.length)]
  show finish H _ _ = _
  rw [finish_of_count (by cases tot <;> simp [mkFrame]), canon_payload]
  rfl

/-- a wrong number of frames is always reported when the first frame carries the count -/
theorem count_fault_detected (H : Hashes) (S : SortFn) (get : Store) (n : Nat) (first : Frame) (ws : List Frame)
    (t : Int) (hw : walk get n first = .ok ws) (ht : first.total = some t) (hlen : (ws.length : Int) ≠ t) :
    load H S.sort get n first = .err .count := by
  obtain ⟨fs, hfs, hperm, _⟩ := collect_of_walk S get n first ws hw
  unfold load
  rw [hfs]
  exact finish_count_err ht (hperm.length_eq ▸ hlen)

/-- an error while fetching is the answer -/
theorem fetch_fault_detected (H : Hashes) (S : SortFn) (get : Store) (n : Nat) (first : Frame) (e : Err)
    (hw : walk get n first = .err e) : load H S.sort get n first = .err e := by
  unfold load
  rw [(collect_err_iff S get n first e).mpr hw]

theorem gather_erase (g : Cid → Res (List Frame)) (l : List Cid) (r : List Frame) (c : Cid)
    (h : gather g l = .ok r) (hc : c ∈ l) :
    ∃ a r', g c = .ok a ∧ gather g (l.erase c) = .ok r' ∧ r.length = a.length + r'.length := by
  induction l generalizing r with
  | nil => cases hc
  | cons x xs ih =>
    obtain ⟨a, b, ha, hb, rfl⟩ := gather_cons_ok.1 h
    by_cases hx : x = c
    · subst hx
      exact ⟨a, b, ha, by rw [List.erase_cons_head]; exact hb, List.length_append⟩
    · obtain ⟨a', r', ha', hr', hlen⟩ := ih b hb ((List.mem_cons.1 hc).resolve_left (Ne.symm hx))
      refine ⟨a', a ++ r', ha', ?_, ?_⟩
      · rw [List.erase_cons_tail (by simpa using hx)]
        exact gather_cons_ok.2 ⟨a, r', ha, hr', rfl⟩
      · simp only [List.length_append, hlen]; omega

theorem fetch_walk_pos {get : Store} {n : Nat} {c : Cid} {a : List Frame}
    (h : fetch get (fun g => walk get n g) c = .ok a) : 0 < a.length := by
  obtain ⟨g, _, hg⟩ := fetch_ok.1 h
  obtain ⟨x, rfl⟩ := walk_ok_cons get n g a hg
  exact Nat.succ_pos _

theorem flatten_set_ne : ∀ (chunks : List Bytes) (c : Nat) (d : Bytes), c < chunks.length →
    d ≠ chunks.getD c [] → (chunks.set c d).flatten ≠ chunks.flatten
  | [], _, _, hc, _ => absurd hc (Nat.not_lt_zero _)
  | x :: xs, 0, d, _, hd => fun (h : d ++ xs.flatten = x ++ xs.flatten) => hd (List.append_cancel_right h)
  | x :: xs, c + 1, d, hc, hd => fun (h : x ++ (xs.set c d).flatten = x ++ xs.flatten) =>
    flatten_set_ne xs c d (Nat.lt_of_succ_lt_succ hc) hd (List.append_cancel_left h)

/-! ## the unstable sort: every answer the real code can give -/

/-- all ways to put `x` into a sorted list keeping it sorted -/
def insAll (x : Frame) : List Frame → List (List Frame)
  | [] => [[x]]
  | y :: ys => (if le x y then [x :: y :: ys] else []) ++ (if le y x then (insAll x ys).map (y :: ·) else [])

/-- all sorted permutations (exactly one when the indices are distinct) -/
def sortedPerms : List Frame → List (List Frame)
  | [] => [[]]
  | x :: xs => (sortedPerms xs).flatMap (insAll x)

theorem mem_insAll (x : Frame) (a b : List Frame) (h : Sorted (a ++ x :: b)) : a ++ x :: b ∈ insAll x (a ++ b) := by
  induction a with
  | nil =>
    cases b with
    | nil => simp [insAll]
    | cons y ys =>
      have hxy : le x y = true := (List.pairwise_cons.mp h).1 y (List.mem_cons_self ..)
      simp [insAll, hxy]
  | cons y a' ih =>
    have hy := List.pairwise_cons.mp h
    have hyx : le y x = true := hy.1 x (by simp)
    have := ih hy.2
    simp only [List.cons_append, insAll, hyx, if_true, List.mem_append, List.mem_map]
    exact Or.inr ⟨_, this, rfl⟩

theorem mem_sortedPerms (ws fs : List Frame) (hp : fs.Perm ws) (hs : Sorted fs) : fs ∈ sortedPerms ws := by
  induction ws generalizing fs with
  | nil => have := hp.eq_nil; subst this; simp [sortedPerms]
  | cons x xs ih =>
    have hx : x ∈ fs := hp.symm.mem_iff.mp (List.mem_cons_self ..)
    obtain ⟨a, b, rfl⟩ := List.append_of_mem hx
    have hp' : (a ++ b).Perm xs := List.Perm.cons_inv (List.perm_middle.symm.trans hp)
    have hs' : Sorted (a ++ b) := by
      refine List.Pairwise.sublist ?_ hs
      exact List.Sublist.append (List.Sublist.refl a) (List.sublist_cons_self x b)
    have := ih (a ++ b) hp' hs'
    unfold sortedPerms
    exact List.mem_flatMap.mpr ⟨a ++ b, this, mem_insAll x a b hs⟩

/-- the answers allowed by the contract of `sort.Slice` -/
def outcomes (H : Hashes) (get : Store) (n : Nat) (first : Frame) : List (Res Bytes) :=
  match walk get n first with
  | .err e => [.err e]
  | .ok ws => (sortedPerms ws).map (finish H first)

/-! ## `accum.ObjectsToTransactionsAndMetadata`: frames resolved from a per-transaction map -/

inductive Obj where
  | frame (c : Cid) (f : Frame)   -- a DataFrame object of the CAR section stream
  | tx (metadata : Frame)         -- a Transaction object; `metadata` is its embedded first metadata frame
  | other                         -- any other kind (skipped)
deriving Repr

/-- `dataBlocksMap[wantedCid.String()]` (a later entry with the same CID overwrites an earlier one) -/
def lookup (m : List (Cid × Frame)) : Store := fun c => m.lookup c

/-- `if total, ok := Metadata.GetTotal(); !ok || total == 1` -/
def single (first : Frame) : Bool :=
  match first.total with
  | none => true
  | some t => t == 1

/-- the metadata bytes of one transaction, frames resolved through `get` -/
def txMeta (H : Hashes) (S : List Frame → List Frame) (fuel : Nat) (get : Store) (first : Frame) : Res Bytes :=
  if single first then hashStep H first.hash first.data
  else load H S get fuel first

/-- the loop of `ObjectsToTransactionsAndMetadata`: DataFrame objects go into the map, a Transaction object
consumes it and clears it; the first error aborts the whole call -/
def accRun (H : Hashes) (S : List Frame → List Frame) (fuel : Nat) : List (Cid × Frame) → List Obj → Res (List Bytes)
  | _, [] => .ok []
  | m, .frame c f :: rest => accRun H S fuel ((c, f) :: m) rest
  | m, .other :: rest => accRun H S fuel m rest
  | m, .tx first :: rest =>
    match txMeta H S fuel (lookup m) first with
    | .err e => .err e
    | .ok b =>
      match accRun H S fuel [] rest with
      | .err e => .err e
      | .ok bs => .ok (b :: bs)

/-- the same loop with one epoch-wide getter (what `getTransactionAndMetaFromNode` / `GetDataFrameByCid` do) -/
def globalRun (H : Hashes) (S : List Frame → List Frame) (fuel : Nat) (get : Store) : List Obj → Res (List Bytes)
  | [] => .ok []
  | .frame _ _ :: rest => globalRun H S fuel get rest
  | .other :: rest => globalRun H S fuel get rest
  | .tx first :: rest =>
    match txMeta H S fuel get first with
    | .err e => .err e
    | .ok b =>
      match globalRun H S fuel get rest with
      | .err e => .err e
      | .ok bs => .ok (b :: bs)

theorem lookup_mem (m : List (Cid × Frame)) (c : Cid) (f : Frame) (h : lookup m c = some f) : (c, f) ∈ m := by
  obtain ⟨l₁, l₂, rfl, _⟩ := List.lookup_eq_some_iff.1 h
  exact List.mem_append_right _ List.mem_cons_self

/-- content addressing: every DataFrame object of the stream is what the epoch-wide getter returns for its CID -/
def Consistent (get : Store) (m : List (Cid × Frame)) (objs : List Obj) : Prop :=
  (∀ c f, (c, f) ∈ m → get c = some f) ∧ (∀ c f, Obj.frame c f ∈ objs → get c = some f)

theorem Consistent.tail {get : Store} {m m' : List (Cid × Frame)} {o : Obj} {rest : List Obj}
    (h : Consistent get m (o :: rest)) (hm : ∀ c f, (c, f) ∈ m' → get c = some f) : Consistent get m' rest :=
  ⟨hm, fun c f hf => h.2 c f (List.mem_cons_of_mem _ hf)⟩

theorem finish_ne_fuel (H : Hashes) (first : Frame) (fs : List Frame) : finish H first fs ≠ .err .fuel := by
  unfold finish
  generalize (match first.total with
    | some t => decide ((fs.length : Int) = t)
    | none => true) = cnt
  cases cnt with
  | false => simp
  | true =>
    simp only [if_true]
    cases first.hash with
    | none => simp
    | some h => simp only; split <;> simp

/-! ## the fuel is sufficient: with more fuel than frames in the store, `fuel` means a cycle -/

/-- a chain of links followed from a frame: `Reach` with the links spelled out, so that the pigeonhole argument of
`fuel_exhausted_cyclic` can be made on the list `cs` -/
inductive Path (get : Store) : Frame → List Cid → Frame → Prop
  | nil (f : Frame) : Path get f [] f
  | cons {f h g : Frame} {c : Cid} {cs : List Cid} :
      c ∈ f.next → get c = some h → Path get h cs g → Path get f (c :: cs) g

theorem gather_err_mem (g : Cid → Res (List Frame)) (l : List Cid) (e : Err) (h : gather g l = .err e) :
    ∃ c ∈ l, g c = .err e := by
  induction l with
  | nil => simp [gather] at h
  | cons x xs ih =>
    unfold gather at h
    cases h1 : g x with
    | err e' =>
      rw [h1] at h; injection h with h; subst h
      exact ⟨x, List.mem_cons_self .., h1⟩
    | ok a =>
      rw [h1] at h; simp only at h
      cases h2 : gather g xs with
      | err e' =>
        rw [h2] at h; injection h with h; subst h
        obtain ⟨c, hc, hg⟩ := ih h2
        exact ⟨c, List.mem_cons_of_mem _ hc, hg⟩
      | ok b => rw [h2] at h; cases h

theorem walk_fuel_path (get : Store) (n : Nat) (f : Frame) (h : walk get n f = .err .fuel) :
    ∃ cs g, cs.length = n ∧ Path get f cs g := by
  induction n generalizing f with
  | zero => exact ⟨[], f, rfl, Path.nil f⟩
  | succ n ih =>
    unfold walk at h
    cases h1 : gather (fetch get fun g => walk get n g) f.next with
    | ok r => rw [h1] at h; cases h
    | err e =>
      rw [h1] at h; injection h with h; subst h
      obtain ⟨c, hc, hg⟩ := gather_err_mem _ _ _ h1
      unfold fetch at hg
      cases hgc : get c with
      | none => rw [hgc] at hg; cases hg
      | some g' =>
        rw [hgc] at hg
        obtain ⟨cs, g, hlen, hp⟩ := ih g' hg
        exact ⟨c :: cs, g, by simp [hlen], Path.cons hc hgc hp⟩

theorem Path.split {get : Store} {f g : Frame} (a b : List Cid) (h : Path get f (a ++ b) g) :
    ∃ m, Path get f a m ∧ Path get m b g := by
  induction a generalizing f with
  | nil => exact ⟨f, Path.nil f, h⟩
  | cons c a ih =>
    cases h with
    | cons hc hg hp =>
      obtain ⟨m, h1, h2⟩ := ih hp
      exact ⟨m, Path.cons hc hg h1, h2⟩

theorem Path.reach {get : Store} {f g : Frame} {cs : List Cid} (h : Path get f cs g) (hne : cs ≠ []) :
    Reach get f g := by
  induction h with
  | nil f => exact absurd rfl hne
  | @cons f h' g c cs hc hg hp ih =>
    cases cs with
    | nil => cases hp; exact Reach.step hc hg
    | cons x xs => exact Reach.trans (Reach.step hc hg) (ih (by simp))

theorem Path.last {get : Store} {f m : Frame} (a : List Cid) (c : Cid) (h : Path get f (a ++ [c]) m) :
    get c = some m := by
  induction a generalizing f with
  | nil =>
    cases h with
    | cons hc hg hp => cases hp; exact hg
  | cons x a ih =>
    cases h with
    | cons hc hg hp => exact ih hp

theorem Path.mem_dom {get : Store} {f g : Frame} {cs : List Cid} (h : Path get f cs g) :
    ∀ c ∈ cs, get c ≠ none := by
  induction h with
  | nil f => intro c hc; cases hc
  | @cons f h' g c cs hc hg hp ih =>
    intro x hx
    rcases List.mem_cons.mp hx with e | e
    · subst e; rw [hg]; simp
    · exact ih x e

theorem exists_dup (cs : List Nat) (h : ¬ cs.Nodup) : ∃ a c b d, cs = a ++ c :: (b ++ c :: d) := by
  induction cs with
  | nil => exact absurd List.nodup_nil h
  | cons x xs ih =>
    by_cases hx : x ∈ xs
    · obtain ⟨b, d, rfl⟩ := List.append_of_mem hx
      exact ⟨[], x, b, d, rfl⟩
    · have : ¬ xs.Nodup := fun hn => h (List.nodup_cons.mpr ⟨hx, hn⟩)
      obtain ⟨a, c, b, d, rfl⟩ := ih this
      exact ⟨x :: a, c, b, d, rfl⟩

/-- If the store holds at most `D.length` frames and the walk still runs out of more fuel than that, some
frame below the first one reaches itself: the Go recursion does not return on this graph. -/
theorem fuel_exhausted_cyclic (get : Store) (D : List Cid) (hD : ∀ c, get c ≠ none → c ∈ D)
    (n : Nat) (hn : D.length < n) (f : Frame) (h : walk get n f = .err .fuel) :
    ∃ g, Reach get f g ∧ Reach get g g := by
  obtain ⟨cs, g, hlen, hp⟩ := walk_fuel_path get n f h
  have hsub : ∀ c ∈ cs, c ∈ D := fun c hc => hD c (hp.mem_dom c hc)
  have hnd : ¬ cs.Nodup := fun hnd => Nat.not_lt.2 (hnd.length_le_of_subset hsub) (hlen ▸ hn)
  obtain ⟨a, c, b, d, rfl⟩ := exists_dup cs hnd
  have e : a ++ c :: (b ++ c :: d) = (a ++ [c]) ++ ((b ++ [c]) ++ d) := by simp
  rw [e] at hp
  obtain ⟨m1, hp1, hp2⟩ := Path.split _ _ hp
  obtain ⟨m2, hp3, _⟩ := Path.split _ _ hp2
  have h1 := Path.last a c hp1
  have h2 := Path.last b c hp3
  have : m1 = m2 := by rw [h1] at h2; injection h2
  subst this
  exact ⟨m1, hp1.reach (by simp), hp3.reach (by simp)⟩

/-! ## the checksums of `ipldbindcode/methods.go`, executable (used by the driver; opaque in the theorems) -/

namespace Real

/-- one entry of `crc64.MakeTable(crc64.ISO)` (reflected polynomial 0xD800000000000000) -/
def crcEntry (i : Nat) : UInt64 :=
  (List.range 8).foldl
    (fun c _ => if c &&& 1 == 1 then (c >>> 1) ^^^ 0xD800000000000000 else c >>> 1) i.toUInt64

def crcTable : Array UInt64 := (Array.range 256).map crcEntry

/-- `crc64.Checksum(buf, crc64.MakeTable(crc64.ISO))` -/
def crc64 (b : Bytes) : UInt64 :=
  ~~~ (b.foldl (fun c x => crcTable.getD (c.toUInt8 ^^^ x).toNat 0 ^^^ (c >>> 8)) (~~~ (0 : UInt64)))

/-- `fnv.New64a()` -/
def fnv1a (b : Bytes) : UInt64 :=
  b.foldl (fun h x => (h ^^^ x.toUInt64) * 1099511628211) 14695981039346656037

def hashes : Hashes := ⟨fun b => (crc64 b).toNat, fun b => (fnv1a b).toNat⟩

end Real

end Frames
