import Faithful.Lib.CompactIndexLegacy
import Faithful.Lib.CompactIndexBytes

/-!
The byte layer of the two legacy formats (`deprecated/compactindex`, `deprecated/compactindex36`) agrees with the
abstract reader: `openLegacy` / `lookupLegacy` over `encodeLegacy f fileSize ix` answer what `lookupA ix` answers.
The bucket table and bodies are laid out as in the current format, so the lookup is `CI.lookupB_layout` with another header; only the 32-byte header and
the value width `legacyWidth f fileSize` differ.
-/
namespace CI
open B

theorem legacyEntry_eq (w : Nat) : legacyEntry w = entryBytes w := by
  funext e; rfl

theorem legacyTable_eq (w : Nat) (bs : List BucketA) (off : Nat) : legacyTable w bs off = tableFrom w bs off := by
  induction bs generalizing off with
  | nil => rfl
  | cons b r ih => simp only [legacyTable, tableFrom, ih, hashSize_eq]

theorem legacyHeader_length (f : Legacy) (fs nb : Nat) : (legacyHeader f fs nb).length = 32 := by
  cases f <;> simp [legacyHeader, legacyMagic, Generated.legacy8Magic, Generated.legacy36Magic, le_length]

theorem encodeLegacy_eq (f : Legacy) (fs : Nat) (ix : IndexA) :
    encodeLegacy f fs ix
      = (legacyHeader f fs ix.numBuckets
          ++ tableFrom (legacyWidth f fs) ix.buckets ((legacyHeader f fs ix.numBuckets).length + 16 * ix.numBuckets))
        ++ ix.buckets.flatMap (bucketBody (legacyWidth f fs)) := by
  simp only [encodeLegacy, legacyTable_eq, legacyEntry_eq, legacyHeader_length]
  rfl

theorem encodeLegacy_length (f : Legacy) (fs : Nat) (ix : IndexA) :
    (encodeLegacy f fs ix).length = 32 + 16 * ix.buckets.length
      + (ix.buckets.map fun b => b.entries.size).sum * (Generated.hashSize + legacyWidth f fs) := by
  rw [encodeLegacy_eq, List.length_append, List.length_append, legacyHeader_length, tableFrom_length, bodies_length]

/-- the fields `Header.Load` reads from the fixed 32-byte header -/
theorem legacyHeader_fields (f : Legacy) (fs nb : Nat) :
    (legacyHeader f fs nb).take 8 = legacyMagic f ∧ (legacyHeader f fs nb).getD 20 0 = 1 ∧
    ((legacyHeader f fs nb).drop 21).any (· ≠ 0) = false ∧
    slice (legacyHeader f fs nb) 8 8 = le 8 fs ∧ slice (legacyHeader f fs nb) 16 4 = le 4 nb := by
  have hm : (legacyMagic f).length = 8 := by cases f <;> rfl
  obtain ⟨f1, f2, f3, f4⟩ := fields3 hm (le_length 8 fs) (le_length 4 nb) (1 :: List.replicate 11 0)
  obtain ⟨f5, f6⟩ := drop_cons_reads f4
  unfold legacyHeader
  simp only [List.append_assoc, List.singleton_append]
  exact ⟨f1, f5, (congrArg (List.any · (· ≠ 0)) f6).trans (by decide), f2, f3⟩

/-- the limits of a legacy file -/
structure LegOk (f : Legacy) (fs : Nat) (ix : IndexA) : Prop where
  /-- the index was built for the value width of the format -/
  w_eq : ix.valueSize = legacyWidth f fs
  nb_pos : 0 < ix.numBuckets
  nb_lt : ix.numBuckets < 2^32
  /-- `Header.FileSize` is a `uint64` -/
  fs_lt : fs < 2^64
  buckets : BucketsOk ix
  size : (encodeLegacy f fs ix).length < 2^48

/-- legacy `Open` succeeds on the sealed file and reads back `FileSize` and `NumBuckets` -/
theorem openLegacy_encode (f : Legacy) (fs : Nat) (ix : IndexA) (ok : LegOk f fs ix) :
    openLegacy f (encodeLegacy f fs ix).toArray = some ⟨fs, ix.numBuckets⟩ := by
  obtain ⟨h1, h2, h3, h4, h5⟩ := legacyHeader_fields f fs ix.numBuckets
  have hlen := legacyHeader_length f fs ix.numBuckets
  have r32 : rd (encodeLegacy f fs ix).toArray 0 32 = some (legacyHeader f fs ix.numBuckets) := by
    rw [encodeLegacy_eq, List.append_assoc, rd_append_left _ _ (Nat.le_of_eq hlen.symm), rd_slice (Nat.le_of_eq hlen.symm),
      slice_take_all hlen]
  unfold openLegacy
  simp only [r32, h1, h2, h3, h4, h5, unle_le_of_lt 8 fs (pow8 ▸ ok.fs_lt), unle_le_of_lt 4 _ (pow4 ▸ ok.nb_lt),
    ne_eq, not_true_eq_false, if_false, Bool.false_eq_true]

/-- the legacy `Lookup` is the current one with header size 32 and the format's value width -/
theorem lookupLegacy_eq_lookupB (hf : HF) (f : Legacy) (file : File) (fs nb : Nat) (m : List (Bytes × Bytes))
    (key : Bytes) (hnb : 0 < nb) (hw : legacyWidth f fs ≤ 255 - Generated.hashSize) :
    lookupLegacy hf f file ⟨fs, nb⟩ key = lookupB hf file ⟨legacyWidth f fs, nb, 32, m⟩ key := by
  have h1 : legacyWidth f fs % 256 = legacyWidth f fs := Nat.mod_eq_of_lt (by rw [hashSize_eq] at hw; omega)
  unfold lookupLegacy lookupB stride
  rw [if_neg (Nat.ne_of_gt hnb)]
  simp only [h1]
  rfl

/-- **legacy `Lookup` over the sealed file answers exactly what the abstract reader answers**, for every key -/
theorem lookupLegacy_encode (hf : HF) (f : Legacy) (fs : Nat) (ix : IndexA) (ok : LegOk f fs ix) (hv : ValsOk ix)
    (key : Bytes) :
    lookupLegacy hf f (encodeLegacy f fs ix).toArray ⟨fs, ix.numBuckets⟩ key = lookupA hf ix key := by
  have := lookupB_layout hf (legacyHeader f fs ix.numBuckets) _ ix [] (by rw [encodeLegacy_eq, ok.buckets.len, ok.w_eq])
    ok.size ok.buckets hv key
  rw [legacyHeader_length, ok.w_eq] at this
  rw [lookupLegacy_eq_lookupB hf f _ fs _ [] key ok.nb_pos (ok.w_eq ▸ ok.buckets.vs_le), this]

/-! ### a built index satisfies the legacy limits -/

theorem intWidth_zero : intWidth 0 = 0 := by rw [intWidth]
theorem intWidth_succ (n : Nat) : intWidth (n+1) = 1 + intWidth ((n+1) / 256) := by rw [intWidth]

/-- Go `intWidth`: a number below `256^k` needs at most `k` bytes -/
theorem intWidth_le : ∀ (k n : Nat), n < 256 ^ k → intWidth n ≤ k
  | _, 0, _ => by rw [intWidth_zero]; omega
  | 0, n+1, h => by simp at h
  | k+1, n+1, h => by
    rw [intWidth_succ]
    have : (n+1) / 256 < 256 ^ k := by
      rw [Nat.pow_succ] at h
      exact Nat.div_lt_of_lt_mul (by rw [Nat.mul_comm]; exact h)
    have := intWidth_le k _ this
    omega

theorem legacyWidth_le (f : Legacy) (fs : Nat) (h : fs < 2^64) : legacyWidth f fs ≤ 36 := by
  cases f with
  | l36 => simp [legacyWidth]
  | l8 =>
    have := intWidth_le 8 fs (by rw [pow8]; exact h)
    simp only [legacyWidth]; omega

/-- an index built with the value width of the legacy format satisfies every limit of that format, under size
    hypotheses on the inputs only -/
theorem legOk_of_build (hf : HF) (f : Legacy) (fs declared : Nat) (m : List (Bytes × Bytes)) (kvs : List KV)
    (ix : IndexA) (h : buildA hf (legacyWidth f fs) declared m kvs = .ok ix) (hfs : fs < 2^64)
    (hnb : numBucketsFor declared < 2^32) (hn : kvs.length < 2^32) : LegOk f fs ix := by
  obtain ⟨e1, e2, _, _, _⟩ := buildA_ok hf _ declared m kvs ix h
  have hw := legacyWidth_le f fs hfs
  obtain ⟨_, p3, b⟩ := bucketsOk_of_build hf _ declared m kvs ix h (by rw [hashSize_eq]; omega) hn
  refine ⟨e1, e2 ▸ p3, e2 ▸ hnb, hfs, b, ?_⟩
  rw [encodeLegacy_length, b.len, e2]
  exact file_size_lt (by decide) hnb (entries_sum_le hf _ declared m kvs ix h) hn (by rw [hashSize_eq]; omega)

end CI
