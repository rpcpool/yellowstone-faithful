import Faithful.Lib.Ledger
/-! Lemmas about the Ledger model for Properties/C11: reference-encoded tuples in normal form, one lemma per accessor
of either decoder, both decoders on every kind. -/
namespace Ledger
open Cbor

/-! ## what each decoder makes of a reference-encoded value

The hand-written decoder does not tell null from absent; the schema-driven one reads an absent field in front of a
present one as null.  The decoded values are these functions of the original (they agree with it under `obs`). -/

/-- what the hand-written decoder leaves in a `**T` field: null is not distinguished from absent -/
def normOpt {α : Type} : OptN α → OptN α
  | some (some v) => some (some v)
  | _ => none

/-- the hand-written decoder turns a null `next` into a pointer to a pointer to a nil slice -/
def Fast.normNext : OptN (List Cid) → OptN (List Cid)
  | none => none
  | some none => some (some [])
  | some (some l) => some (some l)

/-- the typed value the hand-written decoder produces for the encoding of `d` -/
def Fast.normDF (d : DataFrame) : DataFrame :=
  { d with hash := normOpt d.hash, index := normOpt d.index, total := normOpt d.total, next := Fast.normNext d.next }

/-- what the schema-driven decoder produces for an optional field that is absent in the middle of a tuple: null -/
def Ref.nullify {α : Type} : OptN α → OptN α
  | none => some none
  | x => x

/-- the typed value the schema-driven decoder produces for the encoding of `d` -/
def Ref.normDF (d : DataFrame) : DataFrame :=
  { d with hash := Ref.nullify d.hash, index := Ref.nullify d.index, total := Ref.nullify d.total }

/-- the typed value the hand-written decoder produces for the encoding of `n` -/
def Fast.norm : Node → Node
  | .transaction x =>
    .transaction { x with data := Fast.normDF x.data, metadata := Fast.normDF x.metadata, index := normOpt x.index }
  | .block x => .block { x with smeta := { x.smeta with blockHeight := normOpt x.smeta.blockHeight } }
  | .rewards x => .rewards { x with data := Fast.normDF x.data }
  | .dataFrame x => .dataFrame (Fast.normDF x)
  | n => n

/-- the typed value the schema-driven decoder produces for the encoding of `n` -/
def Ref.norm : Node → Node
  | .transaction x => .transaction { x with data := Ref.normDF x.data, metadata := Ref.normDF x.metadata }
  | .rewards x => .rewards { x with data := Ref.normDF x.data }
  | .dataFrame x => .dataFrame (Ref.normDF x)
  | n => n

/-! `castU64`/`castI64` are Go's `uint64(int64)`/`int64(uint64)` conversions (2^64 = 18446744073709551616), `I64` is the
range of `int64` (±2^63 = 9223372036854775808). -/

theorem castI64_castU64 (v : Int) (h : I64 v) : castI64 (castU64 v) = v := by
  unfold I64 at h; unfold castI64 castU64
  omega

theorem castU64_castI64 (u : Nat) (h : u < 18446744073709551616) : castU64 (castI64 u) = u := by
  unfold castI64 castU64
  omega

theorem castU64_nonneg {v : Int} (h0 : 0 ≤ v) (h : v < 18446744073709551616) : castU64 v = v.toNat := by
  rw [castU64, Int.emod_eq_of_lt h0 h]

theorem castI64_I64 (u : Nat) : I64 (castI64 u) := by
  unfold I64 castI64
  omega

theorem kindNum_I64 (k : Kind) : I64 k.num := by cases k <;> decide

theorem nint_of_neg {v : Int} (h : I64 v) (h0 : ¬ 0 ≤ v) :
    (-1 - v).toNat < 9223372036854775808 ∧ -1 - ((-1 - v).toNat : Int) = v := by
  unfold I64 at h; omega

theorem getUint64_encInt (v : Int) (h : I64 v) : Fast.getUint64 (Ref.encInt v) = .ok (castU64 v) := by
  unfold Ref.encInt
  by_cases h0 : 0 ≤ v
  · rw [if_pos h0, castU64_nonneg h0 (Int.lt_trans h.2 (by decide))]; rfl
  · obtain ⟨h1, h2⟩ := nint_of_neg h h0
    rw [if_neg h0, Fast.getUint64, if_pos h1, h2]

theorem reqIntOf (v : Int) (h : I64 v) :
    (do let u ← Fast.getUint64 (Ref.encInt v); Outcome.ok (castI64 u)) = Outcome.ok v := by
  rw [getUint64_encInt v h, Outcome.ok_bind, castI64_castU64 v h]

@[simp] theorem isNil_encInt (v : Int) : Fast.isNil (Ref.encInt v) = false := by
  unfold Ref.encInt; split <;> rfl

@[simp] theorem isNil_encLinks (l : List Cid) : Fast.isNil (Ref.encLinks l) = false := rfl
@[simp] theorem isNil_encLink (c : Cid) : Fast.isNil (Ref.encLink c) = false := rfl

theorem untag_encInt (v : Int) : Ref.untag 8 (Ref.encInt v) = Ref.encInt v := by
  unfold Ref.encInt; split <;> rfl

theorem decInt_encInt (v : Int) (h : I64 v) : Ref.decInt (Ref.encInt v) = .ok v := by
  unfold Ref.decInt
  rw [untag_encInt]
  unfold Ref.encInt
  by_cases h0 : 0 ≤ v
  · rw [if_pos h0]
    show Except.ok (castI64 v.toNat) = _
    rw [← castU64_nonneg h0 (Int.lt_trans h.2 (by decide)), castI64_castU64 v h]
  · obtain ⟨h1, h2⟩ := nint_of_neg h h0
    rw [if_neg h0]
    show (if _ then _ else _) = _
    rw [if_pos h1, h2]

/-! ## the tuple in normal form: present fields are kept, an absent field in front of a present one is written as
null, a last field is there or not -/

@[simp] theorem fill_some (v : Val) : Ref.fill (some v) = v := rfl
@[simp] theorem fill_none : Ref.fill none = .null := rfl
@[simp] theorem encOpt_none {α : Type} (f : α → Val) : Ref.encOpt f none = none := rfl
@[simp] theorem encOpt_null {α : Type} (f : α → Val) : Ref.encOpt f (some none) = some .null := rfl
@[simp] theorem encOpt_val {α : Type} (f : α → Val) (a : α) : Ref.encOpt f (some (some a)) = some (f a) := rfl

theorem dropTrailingAbsent_append_some (xs : List (Option Val)) (v : Val) (ys : List (Option Val)) :
    Ref.dropTrailingAbsent (xs ++ some v :: ys) = xs ++ some v :: Ref.dropTrailingAbsent ys := by
  induction xs with
  | nil => simp only [List.nil_append, Ref.dropTrailingAbsent]; cases Ref.dropTrailingAbsent ys <;> rfl
  | cons x xs ih => simp only [List.cons_append, Ref.dropTrailingAbsent, ih]; cases xs <;> rfl

theorem tupleItems'_append_some (xs : List (Option Val)) (v : Val) (ys : List (Option Val)) :
    Ref.tupleItems' (xs ++ some v :: ys) = xs.map Ref.fill ++ v :: Ref.tupleItems' ys := by
  simp only [Ref.tupleItems', dropTrailingAbsent_append_some, List.map_append, List.map_cons, fill_some]

theorem tupleItems'_cons_some (v : Val) (ys : List (Option Val)) :
    Ref.tupleItems' (some v :: ys) = v :: Ref.tupleItems' ys :=
  tupleItems'_append_some [] v ys

theorem tupleItems'_singleton (o : Option Val) : Ref.tupleItems' [o] = o.toList := by cases o <;> rfl

theorem tupleItems'_nil : Ref.tupleItems' [] = [] := rfl

theorem dfItems_eq (d : DataFrame) : Ref.dfItems d =
    Ref.encInt d.kind :: Ref.fill (Ref.encOpt Ref.encInt d.hash) :: Ref.fill (Ref.encOpt Ref.encInt d.index) ::
      Ref.fill (Ref.encOpt Ref.encInt d.total) :: .bytes d.data :: (Ref.encOpt Ref.encLinks d.next).toList :=
  (tupleItems'_append_some [_, _, _, _] _ [_]).trans (by rw [tupleItems'_singleton]; rfl)

theorem metaItems_eq (m : SlotMeta) : Ref.metaItems m =
    [Ref.encInt m.parentSlot, Ref.encInt m.blocktime] ++ (Ref.encOpt Ref.encInt m.blockHeight).toList :=
  (tupleItems'_append_some [_] _ [_]).trans (by rw [tupleItems'_singleton]; rfl)

theorem encShredding_eq (s : Shredding) :
    Ref.encShredding s = .arr [Ref.encInt s.entryEndIdx, Ref.encInt s.shredEndIdx] := by
  simp only [Ref.encShredding, Ref.tuple, tupleItems'_cons_some, tupleItems'_nil]

theorem get_cons_succ (a : Val) (arr : List Val) (i : Nat) : Fast.get (a :: arr) (i + 1) = Fast.get arr i := rfl
theorem get_cons_zero (a : Val) (arr : List Val) : Fast.get (a :: arr) 0 = some a := rfl
theorem get_toList (o : Option Val) : Fast.get o.toList 0 = o := by cases o <;> rfl

/-- stated so that `wf.1 : x.kind = 2` can be passed as it is; `I64 2` is then found by `decide` (likewise `reads_kind`) -/
theorem readKind_enc {k want : Int} (h : k = want) (hI : I64 want := by decide) (rest : List Val) :
    Fast.readKind (Ref.encInt k :: rest) want = .ok k := by
  subst h
  simp only [Fast.readKind, get_cons_zero, getUint64_encInt k hI, Outcome.ok_bind, castI64_castU64 k hI, ne_eq,
    not_true_eq_false, if_false]

theorem Fast.checkKind_ok (k : Kind) (got : Int) (h : got = k.num) : Fast.checkKind k got = .ok () := if_neg (fun hne => hne h)

theorem reqInt_cons_succ (a : Val) (arr : List Val) (i : Nat) (name : String) :
    Fast.reqInt (a :: arr) (i + 1) name = Fast.reqInt arr i name := rfl

theorem reqInt_cons0 (v : Int) (h : I64 v) (rest : List Val) (name : String) :
    Fast.reqInt (Ref.encInt v :: rest) 0 name = .ok v :=
  reqIntOf v h

@[simp] theorem obsOptInt_normOpt (o : OptN Int) : obsOptInt (normOpt o) = obsOptInt o := by
  rcases o with _ | _ | v <;> rfl
@[simp] theorem obsOptU64_normOpt (o : OptN Int) : obsOptU64 (normOpt o) = obsOptU64 o := by
  rcases o with _ | _ | v <;> rfl

theorem optIntOf_fill (o : OptN Int) (h : OptN.WFInt o) :
    Fast.optIntOf (Ref.fill (Ref.encOpt Ref.encInt o)) = .ok (normOpt o) := by
  rcases o with _ | _ | v
  · rfl
  · rfl
  · simp only [encOpt_val, fill_some, Fast.optIntOf, isNil_encInt, Bool.false_eq_true, if_false]
    rw [getUint64_encInt v h, Outcome.ok_bind, castI64_castU64 v h]; rfl

theorem optInt_cons_succ (a : Val) (arr : List Val) (i : Nat) : Fast.optInt (a :: arr) (i + 1) = Fast.optInt arr i := rfl

theorem optInt_fill (o : OptN Int) (h : OptN.WFInt o) (rest : List Val) :
    Fast.optInt (Ref.fill (Ref.encOpt Ref.encInt o) :: rest) 0 = .ok (normOpt o) :=
  optIntOf_fill o h

theorem optInt_toList (o : OptN Int) (h : OptN.WFInt o) :
    Fast.optInt (Ref.encOpt Ref.encInt o).toList 0 = .ok (normOpt o) := by
  rcases o with _ | _ | v
  · rfl
  · rfl
  · exact optIntOf_fill (some (some v)) h

theorem linkOf_encLink (c : Cid) (h : Cid.WF c) : Fast.linkOf (Ref.encLink c) = .ok c := by
  unfold Cid.WF at h
  simp only [Ref.encLink, Fast.linkOf, Fast.builtinTag, h]
  rfl

/-- the accumulating loops of cbor.go over a list of encoded elements each of which decodes to itself -/
theorem loop_enc {α : Type} (loop : List α → List Val → Outcome (List α)) (one : Val → Outcome α) (enc : α → Val)
    (hnil : ∀ acc, loop acc [] = .ok acc.reverse)
    (hcons : ∀ acc v vs a, one v = .ok a → loop acc (v :: vs) = loop (a :: acc) vs)
    (l : List α) (h : ∀ a ∈ l, one (enc a) = .ok a) (acc : List α) :
    loop acc (l.map enc) = .ok (acc.reverse ++ l) := by
  induction l generalizing acc with
  | nil => rw [List.map_nil, hnil, List.append_nil]
  | cons c cs ih =>
    rw [List.map_cons, hcons _ _ _ c (h c List.mem_cons_self), ih (fun a ha => h a (List.mem_cons_of_mem _ ha)),
      List.reverse_cons, List.append_assoc, List.singleton_append]

theorem linkList_enc (l : List Cid) (h : CidsWF l) : Fast.linkList (Ref.encLinks l) = .ok l :=
  loop_enc Fast.linkLoop Fast.linkOf Ref.encLink (fun _ => rfl)
    (fun acc v vs a hv => by rw [Fast.linkLoop, hv]) l (fun c hc => linkOf_encLink c (h c hc)) []

theorem reqLinks_cons_succ (a : Val) (arr : List Val) (i : Nat) (name : String) :
    Fast.reqLinks (a :: arr) (i + 1) name = Fast.reqLinks arr i name := rfl

theorem reqLinks_cons0 (l : List Cid) (h : CidsWF l) (rest : List Val) (name : String) :
    Fast.reqLinks (Ref.encLinks l :: rest) 0 name = .ok l :=
  linkList_enc l h

theorem obsNext_normNext (o : OptN (List Cid)) : obsNext (Fast.normNext o) = obsNext o := by
  rcases o with _ | _ | l <;> rfl

theorem obs_fast_normDF (d : DataFrame) : obsDataFrame (Fast.normDF d) = obsDataFrame d := by
  simp only [obsDataFrame, Fast.normDF, obsNext_normNext, obsOptU64_normOpt, obsOptInt_normOpt]

theorem fast_dfItems (d : DataFrame) (wf : d.WF) :
    Fast.dataFrameFromArray (Ref.dfItems d) = .ok (Fast.normDF d) := by
  obtain ⟨kind, hash, index, total, data, next⟩ := d
  obtain ⟨hk, hh, hi, ht, hn⟩ := wf
  simp only at hk hh hi ht hn
  rw [dfItems_eq]
  simp only [Fast.dataFrameFromArray, readKind_enc hk, optInt_cons_succ, optInt_fill _ hh, optInt_fill _ hi,
    optInt_fill _ ht, get_cons_succ, get_cons_zero, get_toList, Outcome.ok_bind, Outcome.pure_eq, Fast.normDF]
  rcases next with _ | _ | l
  · rfl
  · rfl
  · simp only [encOpt_val, linkList_enc l hn, Outcome.ok_bind, Fast.normNext]

theorem nestedDataFrame_cons_succ (a : Val) (arr : List Val) (i : Nat) (name : String) :
    Fast.nestedDataFrame (a :: arr) (i + 1) name = Fast.nestedDataFrame arr i name := rfl

theorem nestedDataFrame_cons0 (d : DataFrame) (h : d.WF) (rest : List Val) (name : String) :
    Fast.nestedDataFrame (Ref.encDataFrame d :: rest) 0 name = .ok (Fast.normDF d) :=
  fast_dfItems d h

theorem shreddingOf_enc (s : Shredding) (h : s.WF) : Fast.shreddingOf (Ref.encShredding s) = .ok s := by
  rw [encShredding_eq]
  simp only [Fast.shreddingOf, reqInt_cons_succ, reqInt_cons0 _ h.1, reqInt_cons0 _ h.2, Outcome.ok_bind]

theorem shreddingLoop_enc (l : List Shredding) (h : ∀ s ∈ l, s.WF) :
    Fast.shreddingLoop [] (l.map Ref.encShredding) = .ok l :=
  loop_enc Fast.shreddingLoop Fast.shreddingOf Ref.encShredding (fun _ => rfl)
    (fun acc v vs a hv => by rw [Fast.shreddingLoop, hv]) l (fun s hs => shreddingOf_enc s (h s hs)) []

/-- `v` is a tuple slot that is not null and that `dec` reads as `a` -/
structure Ref.Reads {α : Type} (dec : Val → Except String α) (v : Val) (a : α) : Prop where
  nonNull : Ref.isNull (Ref.untag 8 v) = false
  dec : dec v = .ok a

theorem except_map_ok {α β : Type} (f : α → β) (a : α) : Except.map f (Except.ok a : Except String α) = .ok (f a) := rfl
@[simp] theorem decBytes_bytes (b : Bytes) : Ref.decBytes (.bytes b) = .ok b := rfl
theorem except_fmap_ok {α β : Type} (f : α → β) (a : α) : (f <$> (Except.ok a : Except String α)) = .ok (f a) := rfl
theorem except_bind_ok {α β : Type} (a : α) (f : α → Except String β) : (Except.ok a >>= f) = f a := rfl
@[simp] theorem isNull_untag_arr (l : List Val) : Ref.isNull (Ref.untag 8 (.arr l)) = false := rfl
attribute [local simp] except_map_ok except_fmap_ok except_bind_ok
theorem except_pure_ok {α : Type} (a : α) : (pure a : Except String α) = .ok a := rfl

theorem fieldOf_reads {α : Type} (s : FieldSpec) {dec : Val → Except String α} {v : Val} {a : α}
    (h : Ref.Reads dec v a) : Ref.fieldOf s dec (some v) = .ok (some (some a)) := by
  simp only [Ref.fieldOf, h.nonNull, h.dec, Bool.false_eq_true, if_false, except_map_ok]

theorem fieldR_cons_succ {α : Type} (s : FieldSpec) (dec : Val → Except String α) (a : Val) (items : List Val) (i : Nat) :
    Ref.fieldR s dec (a :: items) (i + 1) = Ref.fieldR s dec items i := rfl

theorem fieldR_reads {α : Type} (s : FieldSpec) {dec : Val → Except String α} {v : Val} {a : α}
    (h : Ref.Reads dec v a) (rest : List Val) : Ref.fieldR s dec (v :: rest) 0 = .ok a := by
  simp only [Ref.fieldR, List.getElem?_cons_zero, fieldOf_reads s h]

theorem field_cons_succ {α : Type} (s : FieldSpec) (dec : Val → Except String α) (a : Val) (items : List Val) (i : Nat) :
    Ref.field s dec (a :: items) (i + 1) = Ref.field s dec items i := rfl

@[simp] theorem obsOptInt_nullify (o : OptN Int) : obsOptInt (Ref.nullify o) = obsOptInt o := by
  rcases o with _ | _ | v <;> rfl
@[simp] theorem obsOptU64_nullify (o : OptN Int) : obsOptU64 (Ref.nullify o) = obsOptU64 o := by
  rcases o with _ | _ | v <;> rfl

theorem field_fill {α : Type} (s : FieldSpec) (hs : s.nullable = true) {dec : Val → Except String α} {enc : α → Val}
    (o : OptN α) (h : ∀ a, o = some (some a) → Ref.Reads dec (enc a) a) (rest : List Val) :
    Ref.field s dec (Ref.fill (Ref.encOpt enc o) :: rest) 0 = .ok (Ref.nullify o) := by
  rcases o with _ | _ | a
  · simp only [Ref.field, List.getElem?_cons_zero, encOpt_none, fill_none, Ref.fieldOf, Ref.untag, Ref.isNull, hs, if_true]
    rfl
  · simp only [Ref.field, List.getElem?_cons_zero, encOpt_null, fill_some, Ref.fieldOf, Ref.untag, Ref.isNull, hs, if_true]
    rfl
  · exact fieldOf_reads s (h a rfl)

theorem field_toList {α : Type} (s : FieldSpec) (ho : s.optional = true) (hs : s.nullable = true)
    {dec : Val → Except String α} {enc : α → Val} (o : OptN α) (h : ∀ a, o = some (some a) → Ref.Reads dec (enc a) a) :
    Ref.field s dec (Ref.encOpt enc o).toList 0 = .ok o := by
  rcases o with _ | _ | a
  · simp only [Ref.field, encOpt_none, Option.toList, List.getElem?_nil, Ref.fieldOf, ho, if_true]
  · simp only [Ref.field, encOpt_null, Option.toList, List.getElem?_cons_zero, Ref.fieldOf, Ref.untag, Ref.isNull, hs, if_true]
  · exact fieldOf_reads s (h a rfl)

theorem tupleItems_arr (n : Nat) (items : List Val) (h : items.length ≤ n) :
    Ref.tupleItems n (.arr items) = .ok items :=
  if_neg (Nat.not_lt.mpr h)

theorem length_toList_le {α : Type} (o : Option α) : o.toList.length ≤ 1 := by
  cases o with
  | none => exact Nat.zero_le 1
  | some _ => exact Nat.le_refl 1

theorem Ref.checkKind_ok (k : Kind) (got : Int) (h : got = k.num) : Ref.checkKind k got = .ok () := if_neg (fun hne => hne h)

theorem reads_encInt (v : Int) (h : I64 v) : Ref.Reads Ref.decInt (Ref.encInt v) v :=
  ⟨by rw [untag_encInt]; unfold Ref.encInt; split <;> rfl, decInt_encInt v h⟩

theorem reads_kind {v want : Int} (h : v = want) (hI : I64 want := by decide) : Ref.Reads Ref.decInt (Ref.encInt v) v :=
  reads_encInt v (h ▸ hI)

theorem reads_optInt (o : OptN Int) (h : OptN.WFInt o) (v : Int) (hv : o = some (some v)) :
    Ref.Reads Ref.decInt (Ref.encInt v) v :=
  reads_encInt v (by subst hv; exact h)

theorem reads_bytes (b : Bytes) : Ref.Reads Ref.decBytes (.bytes b) b := ⟨rfl, rfl⟩

theorem reads_encLink (c : Cid) (h : Cid.WF c) : Ref.Reads Ref.decLink (Ref.encLink c) c := by
  unfold Cid.WF at h
  refine ⟨rfl, ?_⟩
  simp only [Ref.encLink, Ref.decLink, Ref.untag, Cid.cast, h, ne_eq, not_true_eq_false, if_false, if_true]

theorem reads_list {α : Type} (dec : Val → Except String α) (enc : α → Val) (l : List α)
    (h : ∀ a ∈ l, dec (enc a) = .ok a) : Ref.Reads (Ref.decList dec) (.arr (l.map enc)) l := by
  refine ⟨rfl, ?_⟩
  show (l.map enc).mapM dec = .ok l
  induction l with
  | nil => rfl
  | cons c cs ih =>
    rw [List.map_cons, List.mapM_cons, h c List.mem_cons_self, ih (fun a ha => h a (List.mem_cons_of_mem _ ha))]
    rfl

theorem reads_encLinks (l : List Cid) (h : CidsWF l) : Ref.Reads (Ref.decList Ref.decLink) (Ref.encLinks l) l :=
  reads_list Ref.decLink Ref.encLink l (fun c hc => (reads_encLink c (h c hc)).dec)

theorem reads_optLinks (o : OptN (List Cid)) (h : OptN.WFLinks o) (l : List Cid) (hl : o = some (some l)) :
    Ref.Reads (Ref.decList Ref.decLink) (Ref.encLinks l) l :=
  reads_encLinks l (by subst hl; exact h)

/-! ## running a decoder over a tuple

The simp set below is what every run shares: the tuple in normal form, the step over a slot, the dispatch on the kind.
Each call names the lemma that reads each slot. -/

attribute [local simp] Ref.encode Ref.tuple tupleItems'_cons_some tupleItems'_nil tupleItems'_singleton
  Fast.decode Fast.topArray get_cons_succ get_cons_zero get_toList reqInt_cons_succ reqLinks_cons_succ optInt_cons_succ
  nestedDataFrame_cons_succ Ref.decode tupleItems_arr length_toList_le fieldR_cons_succ field_cons_succ except_pure_ok

theorem decShredding_enc (s : Shredding) (h : s.WF) : Ref.decShredding (Ref.encShredding s) = .ok s := by
  simp [encShredding_eq, Ref.decShredding, fieldR_reads _ (reads_encInt _ h.1), fieldR_reads _ (reads_encInt _ h.2)]

theorem reads_encShreddings (l : List Shredding) (h : ∀ s ∈ l, s.WF) :
    Ref.Reads (Ref.decList Ref.decShredding) (.arr (l.map Ref.encShredding)) l :=
  reads_list Ref.decShredding Ref.encShredding l (fun s hs => decShredding_enc s (h s hs))

theorem reads_encSlotMeta (m : SlotMeta) (wf : m.WF) : Ref.Reads Ref.decSlotMeta (Ref.encSlotMeta m) m := by
  refine ⟨rfl, ?_⟩
  simp [Ref.encSlotMeta, metaItems_eq, Ref.decSlotMeta, fieldR_reads _ (reads_encInt _ wf.1),
    fieldR_reads _ (reads_encInt _ wf.2.1), field_toList S.metaHeight rfl rfl _ (reads_optInt _ wf.2.2)]

theorem obs_ref_normDF (d : DataFrame) : obsDataFrame (Ref.normDF d) = obsDataFrame d := by
  simp only [obsDataFrame, Ref.normDF, obsOptU64_nullify, obsOptInt_nullify]

theorem ref_decDataFrame (d : DataFrame) (wf : d.WF) :
    Ref.decDataFrame (Ref.encDataFrame d) = .ok (Ref.normDF d) := by
  obtain ⟨hk, hh, hi, ht, hn⟩ := wf
  simp [Ref.encDataFrame, dfItems_eq, Ref.decDataFrame, fieldR_reads _ (reads_kind hk),
    field_fill S.dfHash rfl _ (reads_optInt _ hh), field_fill S.dfIndex rfl _ (reads_optInt _ hi),
    field_fill S.dfTotal rfl _ (reads_optInt _ ht), fieldR_reads _ (reads_bytes _),
    field_toList S.dfNext rfl rfl _ (reads_optLinks _ hn), Ref.normDF]

theorem reads_encDataFrame (d : DataFrame) (wf : d.WF) :
    Ref.Reads Ref.decDataFrame (Ref.encDataFrame d) (Ref.normDF d) :=
  ⟨rfl, ref_decDataFrame d wf⟩

theorem obs_fast_norm (n : Node) : obs (Fast.norm n) = obs n := by
  cases n <;> simp only [Fast.norm, obs, obs_fast_normDF, obsOptInt_normOpt, obsOptU64_normOpt]

theorem obs_ref_norm (n : Node) : obs (Ref.norm n) = obs n := by
  cases n <;> simp only [Ref.norm, obs, obs_ref_normDF]

theorem fast_decode_encode (n : Node) (wf : n.WF) : Fast.decode n.kind (Ref.encode n) = .ok (Fast.norm n) := by
  cases n with
  | epoch x =>
    simp [Node.kind, Fast.norm, Fast.unmarshalEpoch, readKind_enc wf.1, reqInt_cons0 _ wf.2.1, reqLinks_cons0 _ wf.2.2,
      Fast.checkKind_ok .epoch _ wf.1]
  | subset x =>
    simp [Node.kind, Fast.norm, Fast.unmarshalSubset, readKind_enc wf.1, reqInt_cons0 _ wf.2.1, reqInt_cons0 _ wf.2.2.1,
      reqLinks_cons0 _ wf.2.2.2, Fast.checkKind_ok .subset _ wf.1]
  | entry x =>
    simp [Node.kind, Fast.norm, Fast.unmarshalEntry, readKind_enc wf.1, reqInt_cons0 _ wf.2.1, reqLinks_cons0 _ wf.2.2,
      Fast.checkKind_ok .entry _ wf.1]
  | block x =>
    obtain ⟨hk, hs, hsh, he, ⟨hp, hb, hbh⟩, hr⟩ := wf
    simp [Node.kind, Fast.norm, Fast.unmarshalBlock, Ref.encSlotMeta, metaItems_eq, readKind_enc hk, reqInt_cons0 _ hs,
      shreddingLoop_enc _ hsh, reqLinks_cons0 _ he, reqInt_cons0 _ hp, reqInt_cons0 _ hb, optInt_toList _ hbh,
      linkOf_encLink _ hr, Fast.checkKind_ok .block _ hk]
  | rewards x =>
    simp [Node.kind, Fast.norm, Fast.unmarshalRewards, readKind_enc wf.1, reqInt_cons0 _ wf.2.1,
      nestedDataFrame_cons0 _ wf.2.2, Fast.checkKind_ok .rewards _ wf.1]
  | transaction x =>
    obtain ⟨hk, hd, hm, hs, hi⟩ := wf
    simp [Node.kind, Fast.norm, Fast.unmarshalTransaction, readKind_enc hk, nestedDataFrame_cons0 _ hd,
      nestedDataFrame_cons0 _ hm, reqInt_cons0 _ hs, optInt_toList _ hi, Fast.checkKind_ok .transaction _ hk]
  | dataFrame x =>
    simp [Node.kind, Fast.norm, Ref.encDataFrame, Fast.unmarshalDataFrame, fast_dfItems x wf,
      Fast.checkKind_ok .dataFrame (Fast.normDF x).kind wf.1]

theorem ref_decode_encode (n : Node) (wf : n.WF) : Ref.decode n.kind (Ref.encode n) = .ok (Ref.norm n) := by
  cases n with
  | epoch x =>
    simp [Node.kind, Ref.norm, Ref.decEpoch, fieldR_reads _ (reads_kind wf.1), fieldR_reads _ (reads_encInt _ wf.2.1),
      fieldR_reads _ (reads_encLinks _ wf.2.2), Ref.checkKind_ok .epoch _ wf.1]
  | subset x =>
    simp [Node.kind, Ref.norm, Ref.decSubset, fieldR_reads _ (reads_kind wf.1), fieldR_reads _ (reads_encInt _ wf.2.1),
      fieldR_reads _ (reads_encInt _ wf.2.2.1), fieldR_reads _ (reads_encLinks _ wf.2.2.2), Ref.checkKind_ok .subset _ wf.1]
  | entry x =>
    simp [Node.kind, Ref.norm, Ref.decEntry, fieldR_reads _ (reads_kind wf.1), fieldR_reads _ (reads_encInt _ wf.2.1),
      fieldR_reads _ (reads_bytes _), fieldR_reads _ (reads_encLinks _ wf.2.2), Ref.checkKind_ok .entry _ wf.1]
  | block x =>
    obtain ⟨hk, hs, hsh, he, hm, hr⟩ := wf
    simp [Node.kind, Ref.norm, Ref.decBlock, fieldR_reads _ (reads_kind hk), fieldR_reads _ (reads_encInt _ hs),
      fieldR_reads _ (reads_encShreddings _ hsh), fieldR_reads _ (reads_encLinks _ he),
      fieldR_reads _ (reads_encSlotMeta _ hm), fieldR_reads _ (reads_encLink _ hr), Ref.checkKind_ok .block _ hk]
  | rewards x =>
    simp [Node.kind, Ref.norm, Ref.decRewards, fieldR_reads _ (reads_kind wf.1), fieldR_reads _ (reads_encInt _ wf.2.1),
      fieldR_reads _ (reads_encDataFrame _ wf.2.2), Ref.checkKind_ok .rewards _ wf.1]
  | transaction x =>
    obtain ⟨hk, hd, hm, hs, hi⟩ := wf
    simp [Node.kind, Ref.norm, Ref.decTransaction, fieldR_reads _ (reads_kind hk), fieldR_reads _ (reads_encDataFrame _ hd),
      fieldR_reads _ (reads_encDataFrame _ hm), fieldR_reads _ (reads_encInt _ hs),
      field_toList S.txIndex rfl rfl _ (reads_optInt _ hi), Ref.checkKind_ok .transaction _ hk]
  | dataFrame x =>
    simp [Node.kind, Ref.norm, ref_decDataFrame x wf, Ref.checkKind_ok .dataFrame (Ref.normDF x).kind wf.1]

end Ledger
