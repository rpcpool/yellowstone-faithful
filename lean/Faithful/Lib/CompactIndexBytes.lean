import Faithful.Lib.CompactIndexProofs

/-!
Tie between the two layers of the compact-index model (`Faithful/Lib/CompactIndex.lean`):
the Go `Open`/`Lookup` over the bytes `Seal` writes (`CI.openB`, `CI.lookupB` over `CI.encode ix`) answer exactly
what the abstract reader `CI.lookupA ix` answers.

* `openB_encode`, `lookupB_encode`: for every abstract index satisfying the explicit format limits `EncOk`
  (and, for the lookup, whose stored values have exactly `valueSize` bytes: `ValsOk`); they are instances of
  `openB_header` (`Open` reads nothing but the header) and `lookupB_layout` (`Lookup` works over any header; the two
  legacy formats use it with their own header);
* `encOk_of_build`, `valsOk_of_build`: an index produced by `buildA` satisfies them, under size hypotheses on the
  inputs only;
* `encode_length_lt`: the 48-bit file-offset limit follows from the bucket / item counts.
-/
namespace CI
open B

theorem rd_toArray (l : Bytes) (off len : Nat) :
    rd l.toArray off len = if off + len ≤ l.length then some (slice l off len) else none := by
  rw [rd, extract_toArray, List.size_toArray]

theorem rd_slice {l : Bytes} {off len : Nat} (h : off + len ≤ l.length) :
    rd l.toArray off len = some (slice l off len) := by
  rw [rd_toArray, if_pos h]

theorem rd_append_left (a b : Bytes) {off len : Nat} (h : off + len ≤ a.length) :
    rd (a ++ b).toArray off len = rd a.toArray off len := by
  rw [rd_slice h, rd_slice (Nat.le_trans h (by rw [List.length_append]; exact Nat.le_add_right ..)),
    slice_append_left a b off len h]

theorem rd_append_right (a b : Bytes) (off len : Nat) :
    rd (a ++ b).toArray (a.length + off) len = rd b.toArray off len := by
  simp only [rd_toArray, List.length_append, slice_append_right, Nat.add_assoc, Nat.add_le_add_iff_left]

theorem mul_succ_le {i n : Nat} (h : i < n) (w : Nat) : i * w + w ≤ n * w := by
  rw [← Nat.succ_mul]; exact Nat.mul_le_mul_right w h

/- rewrite targets: `simp` and `omega` are not to unfold the `Generated` constants themselves -/
theorem hashSize_eq : Generated.hashSize = 3 := rfl
theorem bucketHdrLen_eq : Generated.bucketHdrLen = 16 := rfl
theorem pow4 : (256:Nat)^4 = 2^32 := by decide
theorem pow6 : (256:Nat)^6 = 2^48 := by decide
theorem pow3 : (256:Nat)^3 = 2^24 := by decide
theorem pow8 : (256:Nat)^8 = 2^64 := by decide

theorem parseMetaKVs_enc (m : List (Bytes × Bytes)) (h : ∀ kv ∈ m, kv.1.length ≤ 255 ∧ kv.2.length ≤ 255) :
    parseMetaKVs m.length
      (m.flatMap fun kv => (UInt8.ofNat kv.1.length :: kv.1) ++ (UInt8.ofNat kv.2.length :: kv.2)) = some m := by
  induction m with
  | nil => rfl
  | cons kv r ih =>
    obtain ⟨hk, hv⟩ := h kv (List.mem_cons_self ..)
    have ih' := ih (fun kv' h' => h kv' (List.mem_cons_of_mem _ h'))
    simp only [List.length_cons, List.flatMap_cons, List.cons_append, List.append_assoc, parseMetaKVs,
      ofNat_toNat_255 _ hk]
    rw [if_neg (by simp), List.take_left, List.drop_left]
    simp only [ofNat_toNat_255 _ hv]
    simp only [List.cons_append] at ih'
    rw [if_neg (by simp), List.take_left, List.drop_left, ih']

theorem parseMeta_enc (m : List (Bytes × Bytes)) (hl : m.length ≤ 255)
    (h : ∀ kv ∈ m, kv.1.length ≤ 255 ∧ kv.2.length ≤ 255) : parseMeta (metaBytes m) = some m := by
  simp only [parseMeta, metaBytes, ofNat_toNat_255 _ hl]
  exact parseMetaKVs_enc m h

theorem metaBytes_length_le (m : List (Bytes × Bytes)) (h : ∀ kv ∈ m, kv.1.length ≤ 255 ∧ kv.2.length ≤ 255) :
    (metaBytes m).length ≤ 1 + 512 * m.length := by
  unfold metaBytes
  rw [List.length_cons, Nat.add_comm]
  apply Nat.add_le_add_left
  induction m with
  | nil => exact Nat.le_refl _
  | cons kv r ih =>
    obtain ⟨hk, hv⟩ := h kv (List.mem_cons_self ..)
    have := ih (fun kv' h' => h kv' (List.mem_cons_of_mem _ h'))
    simp only [List.flatMap_cons, List.length_append, List.length_cons] at this ⊢
    omega

/-! ### bucket header (16 bytes: nonce u32, count u32, hashLen u8, pad u8, file offset u48) -/

theorem bucketHeader_length (b : BucketA) (off : Nat) : (bucketHeader b off).length = 16 := by
  simp [bucketHeader, le_length]

theorem bucketHeader_fields (b : BucketA) (off : Nat) (hn : b.nonce < 2^32) (hc : b.entries.size < 2^32)
    (ho : off < 2^48) :
    unle (slice (bucketHeader b off) 0 4) = b.nonce ∧ unle (slice (bucketHeader b off) 4 4) = b.entries.size ∧
    unle (slice (bucketHeader b off) 10 6) = off := by
  obtain ⟨f1, f2, _, f4⟩ := fields3 (le_length 4 b.nonce) (le_length 4 b.entries.size)
    (c := [UInt8.ofNat Generated.hashSize, 0]) (nc := 2) rfl (le 6 off)
  unfold bucketHeader
  simp only [List.append_assoc, slice, List.drop_zero, f1, f2, f4, List.take_of_length_le (Nat.le_of_eq (le_length 6 off))]
  exact ⟨unle_le4 _ hn, unle_le4 _ hc, unle_le_of_lt 6 _ (pow6 ▸ ho)⟩

theorem bucketHeader_hashLen (b : BucketA) (off : Nat) : ((bucketHeader b off).getD 8 0).toNat = 3 := by
  -- with the four bytes of each `le 4 _` named, byte 8 of the header is reached by `rfl`
  obtain ⟨n0, n1, n2, n3, e1⟩ : ∃ n0 n1 n2 n3, le 4 b.nonce = [n0, n1, n2, n3] := ⟨_, _, _, _, rfl⟩
  obtain ⟨c0, c1, c2, c3, e2⟩ : ∃ c0 c1 c2 c3, le 4 b.entries.size = [c0, c1, c2, c3] := ⟨_, _, _, _, rfl⟩
  unfold bucketHeader
  rw [e1, e2]
  rfl

/-- total body size of the first `i` buckets -/
def bodyOff (vs : Nat) : List BucketA → Nat → Nat
  | [], _ => 0
  | _ :: _, 0 => 0
  | b :: r, i+1 => b.entries.size * (Generated.hashSize + vs) + bodyOff vs r i

theorem tableFrom_length (vs : Nat) (bs : List BucketA) (off : Nat) : (tableFrom vs bs off).length = 16 * bs.length := by
  induction bs generalizing off with
  | nil => rfl
  | cons b r ih => simp only [tableFrom, List.length_append, bucketHeader_length, ih, List.length_cons]; omega

theorem tableFrom_rd (vs : Nat) (bs : List BucketA) (off i : Nat) (hi : i < bs.length) :
    rd (tableFrom vs bs off).toArray (16 * i) 16 = some (bucketHeader bs[i] (off + bodyOff vs bs i)) := by
  induction bs generalizing off i with
  | nil => simp at hi
  | cons b r ih =>
    rw [tableFrom]
    cases i with
    | zero =>
      have h16 : 16 * 0 + 16 ≤ (bucketHeader b off).length := Nat.le_of_eq (bucketHeader_length b off).symm
      rw [rd_append_left _ _ h16, rd_slice h16]
      exact congrArg some (slice_take_all (bucketHeader_length b off))
    | succ j =>
      have e : 16 * (j + 1) = (bucketHeader b off).length + 16 * j := by rw [bucketHeader_length]; omega
      rw [e, rd_append_right, ih _ j (Nat.lt_of_succ_lt_succ hi), bodyOff, Nat.add_assoc]
      rfl

theorem entryBytes_length (vs : Nat) (e : Ent) : (entryBytes vs e).length = Generated.hashSize + vs := by
  simp only [entryBytes, List.length_append, le_length, List.length_take, List.length_replicate]
  omega

theorem bucketBody_length (vs : Nat) (b : BucketA) : (bucketBody vs b).length = b.entries.size * (Generated.hashSize + vs) := by
  unfold bucketBody
  have : ∀ l : List Ent, (l.flatMap (entryBytes vs)).length = l.length * (Generated.hashSize + vs) := by
    intro l
    induction l with
    | nil => simp
    | cons x r ih => simp only [List.flatMap_cons, List.length_append, entryBytes_length, ih, List.length_cons, Nat.succ_mul]; omega
  rw [this]; simp

theorem bodyOff_le (vs : Nat) (bs : List BucketA) (i : Nat) : bodyOff vs bs i ≤ (bs.flatMap (bucketBody vs)).length := by
  induction bs generalizing i with
  | nil => exact Nat.zero_le _
  | cons b r ih =>
    cases i with
    | zero => exact Nat.zero_le _
    | succ j =>
      rw [List.flatMap_cons, List.length_append, bucketBody_length, bodyOff]
      exact Nat.add_le_add_left (ih j) _

theorem bucketBody_entry (vs : Nat) (b : BucketA) (idx : Nat) (hi : idx < b.entries.size) :
    slice (bucketBody vs b) (idx * (Generated.hashSize + vs)) (Generated.hashSize + vs) = entryBytes vs b.entries[idx] := by
  unfold bucketBody
  rw [List.flatMap_def]
  have hfix : ∀ x ∈ b.entries.toList.map (entryBytes vs), x.length = Generated.hashSize + vs := by
    intro x hx
    obtain ⟨e, _, rfl⟩ := List.mem_map.1 hx
    exact entryBytes_length _ _
  have hlen : idx < (b.entries.toList.map (entryBytes vs)).length := by simpa using hi
  have := slice_flatten_fixed _ _ hfix idx hlen
  rw [Nat.mul_comm] at this
  rw [this]
  simp

theorem bodies_rd (vs : Nat) (bs : List BucketA) (i : Nat) (hi : i < bs.length) (idx : Nat)
    (hidx : idx < bs[i].entries.size) :
    rd (bs.flatMap (bucketBody vs)).toArray (bodyOff vs bs i + idx * (Generated.hashSize + vs)) (Generated.hashSize + vs)
      = some (entryBytes vs bs[i].entries[idx]) := by
  induction bs generalizing i with
  | nil => simp at hi
  | cons b r ih =>
    rw [List.flatMap_cons]
    cases i with
    | zero =>
      rw [List.getElem_cons_zero] at hidx
      have hfit := mul_succ_le hidx (Generated.hashSize + vs)
      rw [← bucketBody_length] at hfit
      rw [bodyOff, Nat.zero_add, rd_append_left _ _ hfit, rd_slice hfit]
      exact congrArg some (bucketBody_entry vs b idx hidx)
    | succ j =>
      rw [bodyOff, ← bucketBody_length, Nat.add_assoc, rd_append_right]
      exact ih j (Nat.lt_of_succ_lt_succ hi) hidx

theorem entryBytes_decode (vs : Nat) (e : Ent) (hh : e.1 < 2^24) (hv : e.2.length = vs) :
    unle ((entryBytes vs e).take 3) = e.1 ∧ ((entryBytes vs e).drop 3).take vs = e.2 := by
  unfold entryBytes
  rw [hashSize_eq, hv, Nat.sub_self, List.replicate_zero, List.append_nil, List.take_left' (le_length 3 _),
    List.drop_left' (le_length 3 _), List.take_take, Nat.min_self, ← hv, List.take_length]
  exact ⟨unle_le_of_lt 3 _ (pow3 ▸ hh), rfl⟩

/-- everything the file format needs from an abstract index for `encode` to be loss-free -/
structure EncOk (ix : IndexA) : Prop where
  vs_pos : 0 < ix.valueSize
  /-- the Go stride `HashSize + valueSize` is a `uint8` (`NewBuilderSized` refuses larger value sizes, build.go:56) -/
  vs_le : ix.valueSize ≤ 255 - Generated.hashSize
  nb_pos : 0 < ix.numBuckets
  /-- `Header.NumBuckets` is a `uint32` -/
  nb_lt : ix.numBuckets < 2^32
  len : ix.buckets.length = ix.numBuckets
  /-- `indexmeta` limits: one length byte each -/
  meta_n : ix.metaKVs.length ≤ 255
  meta_kv : ∀ kv ∈ ix.metaKVs, kv.1.length ≤ 255 ∧ kv.2.length ≤ 255
  /-- `BucketHeader.HashDomain` is a `uint32` -/
  nonce : ∀ b ∈ ix.buckets, b.nonce < 2^32
  /-- `BucketHeader.NumEntries` is a `uint32` -/
  count : ∀ b ∈ ix.buckets, b.entries.size < 2^32
  /-- stored hashes have `HashSize` bytes -/
  hash : ∀ b ∈ ix.buckets, ∀ i (h : i < b.entries.size), b.entries[i].1 < 2^24
  /-- `BucketHeader.FileOffset` is a `uint48` -/
  size : (encode ix).length < 2^48

/-- every stored value has exactly `valueSize` bytes (shorter ones would be zero-padded by `marshalEntry`) -/
def ValsOk (ix : IndexA) : Prop :=
  ∀ b ∈ ix.buckets, ∀ i (h : i < b.entries.size), b.entries[i].2.length = ix.valueSize

/-- the bucket-level limits, the same in all three formats -/
structure BucketsOk (ix : IndexA) : Prop where
  vs_le : ix.valueSize ≤ 255 - Generated.hashSize
  len : ix.buckets.length = ix.numBuckets
  nonce : ∀ b ∈ ix.buckets, b.nonce < 2^32
  count : ∀ b ∈ ix.buckets, b.entries.size < 2^32
  hash : ∀ b ∈ ix.buckets, ∀ i (h : i < b.entries.size), b.entries[i].1 < 2^24

theorem EncOk.buckets {ix : IndexA} (ok : EncOk ix) : BucketsOk ix := ⟨ok.vs_le, ok.len, ok.nonce, ok.count, ok.hash⟩

theorem headerBytes_length (vs nb : Nat) (m : List (Bytes × Bytes)) :
    (headerBytes vs nb m).length = 25 + (metaBytes m).length := by
  simp only [headerBytes, magic, Generated.compactindexsizedMagic, List.length_append, le_length, List.length_cons,
    List.length_nil]
  omega

/-- `Open` reads nothing behind the header -/
theorem openB_header (vs nb : Nat) (m : List (Bytes × Bytes)) (tl : Bytes) (hvs0 : vs ≠ 0) (hvs : vs < 256 ^ 8)
    (hnb0 : nb ≠ 0) (hnb : nb < 256 ^ 4) (hml : m.length ≤ 255)
    (hkv : ∀ kv ∈ m, kv.1.length ≤ 255 ∧ kv.2.length ≤ 255) :
    openB (headerBytes vs nb m ++ tl).toArray = .ok ⟨vs, nb, (headerBytes vs nb m).length, m⟩ := by
  obtain ⟨R, hR⟩ : ∃ R, R = le 8 vs ++ le 4 nb ++ [UInt8.ofNat Generated.compactindexsizedVersion] ++ metaBytes m :=
    ⟨_, rfl⟩
  -- `R` and its length stay opaque, so that rewriting inside `R` does not touch the length field `le 4 n`
  obtain ⟨n, hn⟩ : ∃ n, n = R.length := ⟨_, rfl⟩
  have hH : headerBytes vs nb m = (magic ++ le 4 n) ++ R := by rw [headerBytes, ← hR, hn]
  have hRa : R = le 8 vs ++ (le 4 nb ++ (UInt8.ofNat Generated.compactindexsizedVersion :: metaBytes m)) := by
    rw [hR, List.append_assoc, List.append_assoc]; rfl
  have hn13 : n = 13 + (metaBytes m).length := by
    rw [hn, hRa]; simp only [List.length_append, le_length, List.length_cons]; omega
  have hn32 : n < 256 ^ 4 := by have := metaBytes_length_le m hkv; rw [pow4]; omega
  have h12 : (magic ++ le 4 n).length = 12 := by rw [List.length_append, le_length]; rfl
  have hHlen : ((magic ++ le 4 n) ++ R).length = 12 + n := by rw [List.length_append, h12, hn]
  obtain ⟨f1, f2, f3, f4⟩ := fields3 h12 (le_length 8 vs) (le_length 4 nb)
    (UInt8.ofNat Generated.compactindexsizedVersion :: metaBytes m)
  rw [← hRa] at f1 f2 f3 f4
  obtain ⟨f5, f6⟩ := drop_cons_reads f4
  have r12 : rd ((magic ++ le 4 n) ++ R ++ tl).toArray 0 12 = some (magic ++ le 4 n) := by
    rw [List.append_assoc, rd_slice (by rw [List.length_append, h12]; omega), slice_append_take h12]
  have rH : rd ((magic ++ le 4 n) ++ R ++ tl).toArray 0 (12 + n) = some ((magic ++ le 4 n) ++ R) := by
    rw [rd_slice (by rw [List.length_append, hHlen]; omega), slice_append_take hHlen]
  rw [hH]
  unfold openB
  simp only [r12, List.take_left' (show magic.length = 8 from rfl), List.drop_left' (show magic.length = 8 from rfl),
    unle_le_of_lt 4 n hn32, rH, hHlen, f2, f3, f5, f6, unle_le_of_lt 8 vs hvs, unle_le_of_lt 4 nb hnb,
    parseMeta_enc m hml hkv, ne_eq, not_true_eq_false, if_false, hvs0, hnb0]
  clear r12 rH f1 f2 f3 f4 f5 f6 hRa hH hR hHlen h12 hn32 hn
  -- `size < 12`, `size > buf.length`, `buf.length < 25`; the list facts are cleared to keep `omega` to the arithmetic
  rw [if_neg (by omega), if_neg (by omega), if_neg (by omega)]

theorem openB_encode (ix : IndexA) (ok : EncOk ix) :
    openB (encode ix).toArray
      = .ok ⟨ix.valueSize, ix.numBuckets, (headerBytes ix.valueSize ix.numBuckets ix.metaKVs).length, ix.metaKVs⟩ := by
  have hvs : ix.valueSize < 256 ^ 8 := by have := ok.vs_le; rw [hashSize_eq] at this; rw [pow8]; omega
  rw [encode, List.append_assoc]
  exact openB_header _ _ _ _ (Nat.pos_iff_ne_zero.mp ok.vs_pos) hvs (Nat.pos_iff_ne_zero.mp ok.nb_pos)
    (pow4 ▸ ok.nb_lt) ok.meta_n ok.meta_kv

theorem searchB_eq (a : Array Ent) (get : Nat → Option Ent) (x : Nat)
    (hget : ∀ i (h : i < a.size), get i = some a[i]) (fuel idx : Nat) :
    searchB get x a.size fuel idx
      = match Eytz.search a x fuel idx with
        | some v => Look.found v
        | none => Look.notFound := by
  induction fuel generalizing idx with
  | zero => simp [searchB, Eytz.search]
  | succ f ih =>
    rw [searchB, Eytz.search]
    by_cases hi : idx < a.size
    · have hg : a.getD idx default = a[idx] := by simp [Array.getD, hi]
      rw [if_pos hi, if_pos hi, hget idx hi]
      simp only [hg]
      by_cases he : a[idx].1 = x
      · rw [if_pos he, if_pos he]
      · rw [if_neg he, if_neg he]; exact ih _
    · rw [if_neg hi, if_neg hi]

theorem stride_eq (vs : Nat) (h : vs ≤ 255 - Generated.hashSize) : stride vs = Generated.hashSize + vs := by
  unfold stride; rw [hashSize_eq] at *; omega

theorem mask24 (x : Nat) : x &&& ((2^64 - 1) / 2^40) = x % 2 ^ (8 * Generated.hashSize) := by
  have : ((2:Nat)^64 - 1) / 2^40 = 2^24 - 1 := by decide
  rw [this, Nat.and_two_pow_sub_one_eq_mod]; rfl

/-- the shared bucket part of all three formats: in a file `header ‖ bucket table ‖ bucket bodies` shorter than
    2^48 bytes, the 16-byte record `i` of the table is the header of bucket `i` with an exact 48-bit offset, and
    reading `stride` bytes at `offset + idx * stride` yields stored entry `idx` -/
theorem bucket_reads (Hd : Bytes) (vs : Nat) (bs : List BucketA) (F : Bytes)
    (hF : F = (Hd ++ tableFrom vs bs (Hd.length + 16 * bs.length)) ++ bs.flatMap (bucketBody vs))
    (hsize : F.length < 2^48) (i : Nat) (hi : i < bs.length) :
    ∃ off, off < 2^48 ∧ rd F.toArray (Hd.length + 16 * i) 16 = some (bucketHeader bs[i] off) ∧
      ∀ idx (h : idx < bs[i].entries.size),
        rd F.toArray (off + idx * (Generated.hashSize + vs)) (Generated.hashSize + vs)
          = some (entryBytes vs bs[i].entries[idx]) := by
  obtain ⟨T, hT⟩ : ∃ T, T = tableFrom vs bs (Hd.length + 16 * bs.length) := ⟨_, rfl⟩
  rw [← hT] at hF
  subst hF
  have hHT : (Hd ++ T).length = Hd.length + 16 * bs.length := by rw [List.length_append, hT, tableFrom_length]
  refine ⟨(Hd ++ T).length + bodyOff vs bs i, ?_, ?_, ?_⟩
  · rw [List.length_append] at hsize
    exact Nat.lt_of_le_of_lt (Nat.add_le_add_left (bodyOff_le vs bs i) _) hsize
  · rw [rd_append_left _ _ (by rw [hHT]; omega), rd_append_right, hHT, hT, tableFrom_rd _ _ _ i hi]
  · intro idx hidx
    rw [Nat.add_assoc, rd_append_right, bodies_rd vs bs i hi idx hidx]

/-- `Lookup` does not depend on the header: any bytes `Hd` in front of table and bodies, header size `Hd.length` -/
theorem lookupB_layout (hf : HF) (Hd F : Bytes) (ix : IndexA) (m : List (Bytes × Bytes))
    (hF : F = (Hd ++ tableFrom ix.valueSize ix.buckets (Hd.length + 16 * ix.buckets.length))
      ++ ix.buckets.flatMap (bucketBody ix.valueSize))
    (hsize : F.length < 2^48) (ok : BucketsOk ix) (hv : ValsOk ix) (key : Bytes) :
    lookupB hf F.toArray ⟨ix.valueSize, ix.numBuckets, Hd.length, m⟩ key = lookupA hf ix key := by
  unfold lookupB lookupA
  dsimp only
  cases hf.bucket key ix.numBuckets with
  | none => rfl
  | some i =>
    dsimp only
    by_cases hi : i < ix.numBuckets
    · have hil : i < ix.buckets.length := ok.len ▸ hi
      rw [if_neg (Nat.not_le_of_lt hi), List.getElem?_eq_getElem hil]
      dsimp only
      obtain ⟨off, hoff48, hrdH, hrdE⟩ := bucket_reads Hd ix.valueSize ix.buckets F hF hsize i hil
      have hmem : ix.buckets[i] ∈ ix.buckets := List.getElem_mem hil
      generalize ix.buckets[i] = b at hrdH hrdE hmem ⊢
      obtain ⟨f1, f2, f3⟩ := bucketHeader_fields b off (ok.nonce b hmem) (ok.count b hmem) hoff48
      have hvs : ix.valueSize % 256 = ix.valueSize :=
        Nat.mod_eq_of_lt (by have := ok.vs_le; rw [hashSize_eq] at this; omega)
      -- the `uint8` shift of `Hash()` for hashLen 3: the mask keeps 24 bits
      have hsh : (64 + 256 - 3 * 8 % 256) % 256 = 40 := by decide
      simp only [bucketHdrLen_eq, hrdH, f1, f2, f3, bucketHeader_hashLen, stride_eq _ ok.vs_le, hvs, hsh]
      rw [if_neg (by decide), mask24]
      refine searchB_eq b.entries _ _ (fun idx hidx => ?_) (b.entries.size + 1) 0
      -- one stored entry, as `Lookup` decodes it
      obtain ⟨d1, d2⟩ := entryBytes_decode ix.valueSize b.entries[idx] (ok.hash b hmem idx hidx) (hv b hmem idx hidx)
      rw [if_neg (Nat.not_lt_of_le (mul_succ_le hidx _)), hrdE idx hidx]
      exact congrArg some (Prod.ext d1 d2)
    · rw [if_pos (Nat.le_of_not_lt hi), List.getElem?_eq_none (ok.len ▸ Nat.le_of_not_lt hi)]

/-- **`Lookup` over the bytes `Seal` wrote answers exactly what the abstract reader answers**, for every key
    (present, absent, or hashing outside the bucket table) -/
theorem lookupB_encode (hf : HF) (ix : IndexA) (ok : EncOk ix) (hv : ValsOk ix) (key : Bytes) :
    lookupB hf (encode ix).toArray
        ⟨ix.valueSize, ix.numBuckets, (headerBytes ix.valueSize ix.numBuckets ix.metaKVs).length, ix.metaKVs⟩ key
      = lookupA hf ix key :=
  lookupB_layout hf _ _ ix _ (by rw [encode, ok.len]; rfl) ok.size ok.buckets hv key

/-- if `g` of every result is `k` of its input, `allSome (l.map f) = some r` gives `r.map g = l.map k` -/
theorem allSome_map_eq {α β γ : Type} (f : α → Option β) (g : β → γ) (k : α → γ)
    (hfk : ∀ x y, f x = some y → g y = k x) :
    ∀ (l : List α) (r : List β), allSome (l.map f) = some r → r.map g = l.map k
  | [], r, h => by simp [allSome] at h; subst h; rfl
  | a :: l, r, h => by
    simp only [List.map_cons] at h
    cases hfa : f a with
    | none => rw [hfa] at h; simp [allSome] at h
    | some y =>
      rw [hfa] at h
      simp only [allSome] at h
      split at h
      · cases h
      · rename_i l' hl'
        simp only [Option.some.injEq] at h; subst h
        simp [hfk a y hfa, allSome_map_eq f g k hfk l l' hl']

theorem layout_getElem_mem (xs : List Ent) (p : Nat) (hp : p < (Eytz.layout xs.toArray).size) :
    (Eytz.layout xs.toArray)[p] ∈ xs := by
  obtain ⟨j, hj, e⟩ := Eytz.layout_getD_mem xs.toArray p (Eytz.size_layout xs.toArray ▸ hp)
  have hj' : j < xs.length := by simpa using hj
  have e1 : (Eytz.layout xs.toArray)[p] = xs[j] := by simpa [Array.getD, hp, hj'] using e
  exact e1 ▸ List.getElem_mem hj'

theorem sealBucket_entries (hf : HF) (kvs : List KV) (b : BucketA) (h : sealBucket hf kvs = some b) :
    b.nonce < Generated.mineAttempts ∧ b.entries.size = kvs.length ∧
    ∀ i (hi : i < b.entries.size), ∃ kv ∈ kvs, b.entries[i] = (hf.entry b.nonce kv.key, kv.val) := by
  unfold sealBucket at h
  split at h
  · cases h
  · rename_i nonce sorted hm
    simp only [Option.some.injEq] at h; subst h
    obtain ⟨hperm, _⟩ := mine_strict hf kvs nonce sorted hm
    obtain ⟨_, _, _, hn⟩ := mineFrom_spec hf kvs _ _ _ _ hm
    refine ⟨by show nonce < Generated.mineAttempts; unfold mine at hm; omega, ?_, ?_⟩
    · show (Eytz.layout sorted.toArray).size = kvs.length
      rw [Eytz.size_layout, List.size_toArray, hperm.length_eq]; simp [hashed]
    · intro i hi
      have hmem := layout_getElem_mem sorted i hi
      rw [hperm.mem_iff] at hmem
      unfold hashed at hmem
      obtain ⟨kv, hkv, he⟩ := List.mem_map.mp hmem
      exact ⟨kv, hkv, he.symm⟩

theorem entry_lt (hf : HF) (n : Nat) (k : Bytes) : hf.entry n k < 2^24 := by
  unfold HF.entry
  exact Nat.mod_lt _ (by decide)

/-- one bucket per bucket number, each the sealing of the pairs whose key has that number -/
theorem buckets_sealed_of_build (hf : HF) (vs declared : Nat) (m : List (Bytes × Bytes)) (kvs : List KV) (ix : IndexA)
    (h : buildA hf vs declared m kvs = .ok ix) :
    ix.buckets.length = ix.numBuckets ∧
    ∀ b ∈ ix.buckets, ∃ i, i < ix.numBuckets ∧ sealBucket hf (bucketKVs hf ix.numBuckets kvs i) = some b := by
  obtain ⟨_, _, _, _, hall⟩ := buildA_ok hf vs declared m kvs ix h
  have hlen : ix.buckets.length = ix.numBuckets := by simpa using allSome_length _ _ hall
  refine ⟨hlen, ?_⟩
  intro b hb
  obtain ⟨i, hi, rfl⟩ := List.getElem_of_mem hb
  obtain ⟨b', hb', hseal⟩ := bucket_of_build hf vs declared m kvs ix h i (by omega)
  rw [List.getElem?_eq_getElem hi] at hb'
  exact ⟨i, by omega, by rw [hseal, ← Option.some.inj hb']⟩

theorem sum_map_add (l : List Nat) (f g : Nat → Nat) :
    (l.map fun i => f i + g i).sum = (l.map f).sum + (l.map g).sum := by
  induction l with
  | nil => rfl
  | cons x r ih => simp only [List.map_cons, List.sum_cons, ih]; omega

/-- how often `a` occurs, as a sum of indicators -/
theorem sum_indicator_eq_count (a : Nat) (is : List Nat) :
    (is.map fun i => if some a == some i then 1 else 0).sum = is.count a := by
  induction is with
  | nil => rfl
  | cons x r ih =>
    rw [List.map_cons, List.sum_cons, ih, List.count_cons, Nat.add_comm]
    by_cases hx : x = a
    · rw [if_pos (beq_iff_eq.mpr (congrArg some hx.symm)), if_pos (beq_iff_eq.mpr hx)]
    · rw [if_neg (fun h => hx (Option.some.inj (beq_iff_eq.mp h)).symm), if_neg (fun h => hx (beq_iff_eq.mp h))]

/-- classes numbered by a duplicate-free list are disjoint (an element has one class number, or none), so their
    sizes add up to at most the size of the whole -/
theorem sum_classes_le {α : Type} (c : α → Option Nat) (l : List α) (is : List Nat) (hn : is.Nodup) :
    (is.map fun i => (l.filter fun x => c x == some i).length).sum ≤ l.length := by
  induction l with
  | nil => simp [List.map_const', List.sum_replicate_nat]
  | cons x r ih =>
    simp only [← List.countP_eq_length_filter, List.countP_cons] at ih ⊢
    rw [sum_map_add, List.length_cons]
    apply Nat.add_le_add ih
    cases c x with
    | none => simp [List.map_const', List.sum_replicate_nat]
    | some a => exact sum_indicator_eq_count a is ▸ List.nodup_iff_count.mp hn a

theorem bodies_length (vs : Nat) (bs : List BucketA) :
    (bs.flatMap (bucketBody vs)).length = (bs.map fun b => b.entries.size).sum * (Generated.hashSize + vs) := by
  induction bs with
  | nil => simp
  | cons b r ih =>
    rw [List.flatMap_cons, List.length_append, bucketBody_length, ih, List.map_cons, List.sum_cons, Nat.add_mul]

theorem encode_length (ix : IndexA) :
    (encode ix).length = 25 + (metaBytes ix.metaKVs).length + 16 * ix.buckets.length
      + (ix.buckets.map fun b => b.entries.size).sum * (Generated.hashSize + ix.valueSize) := by
  rw [encode, List.length_append, List.length_append, headerBytes_length, tableFrom_length, bodies_length]

theorem entries_sum_le (hf : HF) (vs declared : Nat) (m : List (Bytes × Bytes)) (kvs : List KV) (ix : IndexA)
    (h : buildA hf vs declared m kvs = .ok ix) : (ix.buckets.map fun b => b.entries.size).sum ≤ kvs.length := by
  obtain ⟨_, _, _, _, hall⟩ := buildA_ok hf vs declared m kvs ix h
  have := allSome_map_eq (fun i => sealBucket hf (bucketKVs hf ix.numBuckets kvs i)) (fun b => b.entries.size)
    (fun i => (bucketKVs hf ix.numBuckets kvs i).length)
    (fun i b hb => (sealBucket_entries hf _ b hb).2.1) _ _ hall
  rw [this]
  exact sum_classes_le _ kvs _ List.nodup_range

/-- metadata within the `indexmeta` limits -/
def MetaOk (m : List (Bytes × Bytes)) : Prop :=
  m.length ≤ Generated.metaMaxNumKVs ∧ ∀ kv ∈ m, kv.1.length ≤ Generated.metaMaxKeySize ∧ kv.2.length ≤ Generated.metaMaxValueSize

/-- the size arithmetic shared by the three formats: header (at most 25 + 1 + 512 * 255 < 2^20 bytes), 16 bytes per
    bucket, `w ≤ HashSize + 255` bytes per entry -/
theorem file_size_lt {hdr nb s n w : Nat} (hh : hdr ≤ 2^20) (hnb : nb < 2^32) (hs : s ≤ n) (hn : n < 2^32)
    (hw : w ≤ 258) : hdr + 16 * nb + s * w < 2^48 := by
  have := Nat.mul_le_mul hs hw
  omega

/-- the file of a built index is shorter than 2^48 bytes (so the `uint48` file offsets are exact) as soon as the
    bucket count and the item count fit `uint32` -/
theorem encode_length_lt (hf : HF) (vs declared : Nat) (m : List (Bytes × Bytes)) (kvs : List KV) (ix : IndexA)
    (h : buildA hf vs declared m kvs = .ok ix) (hm : MetaOk m) (hvs : vs ≤ 255)
    (hnb : numBucketsFor declared < 2^32) (hn : kvs.length < 2^32) : (encode ix).length < 2^48 := by
  obtain ⟨e1, e2, e3, _, _⟩ := buildA_ok hf vs declared m kvs ix h
  have hmb : 25 + (metaBytes m).length ≤ 2^20 := by
    have := metaBytes_length_le m hm.2
    have : m.length ≤ 255 := hm.1
    omega
  rw [encode_length, (buckets_sealed_of_build hf vs declared m kvs ix h).1, e1, e2, e3]
  exact file_size_lt hmb hnb (entries_sum_le hf vs declared m kvs ix h) hn (by rw [hashSize_eq]; omega)

/-- `buildA` accepted its parameters and every bucket fits the fields of its header -/
theorem bucketsOk_of_build (hf : HF) (vs declared : Nat) (m : List (Bytes × Bytes)) (kvs : List KV) (ix : IndexA)
    (h : buildA hf vs declared m kvs = .ok ix) (hvs : vs ≤ 255 - Generated.hashSize) (hn : kvs.length < 2^32) :
    0 < vs ∧ 0 < numBucketsFor declared ∧ BucketsOk ix := by
  have hpar : ¬ (vs = 0 ∨ vs > 255 ∨ declared = 0) := by
    intro hbad
    unfold buildA at h
    rw [if_pos hbad] at h
    cases h
  obtain ⟨hlen, hbk⟩ := buckets_sealed_of_build hf vs declared m kvs ix h
  refine ⟨by omega, ?_, (buildA_ok hf vs declared m kvs ix h).1 ▸ hvs, hlen, ?_, ?_, ?_⟩
  · unfold numBucketsFor
    simp only [Generated.targetEntriesPerBucket]
    omega
  · intro b hb
    obtain ⟨i, _, hs⟩ := hbk b hb
    have : b.nonce < 1000 := (sealBucket_entries hf _ b hs).1
    omega
  · intro b hb
    obtain ⟨i, _, hs⟩ := hbk b hb
    rw [(sealBucket_entries hf _ b hs).2.1]
    exact Nat.lt_of_le_of_lt (List.length_filter_le _ _) hn
  · intro b hb j hj
    obtain ⟨i, _, hs⟩ := hbk b hb
    obtain ⟨kv, _, he⟩ := (sealBucket_entries hf _ b hs).2.2 j hj
    rw [he]
    exact entry_lt hf _ _

/-- **a built index satisfies every limit of the format**, under size hypotheses on the inputs only -/
theorem encOk_of_build (hf : HF) (vs declared : Nat) (m : List (Bytes × Bytes)) (kvs : List KV) (ix : IndexA)
    (h : buildA hf vs declared m kvs = .ok ix) (hm : MetaOk m) (hvs : vs ≤ 255 - Generated.hashSize)
    (hnb : numBucketsFor declared < 2^32) (hn : kvs.length < 2^32) : EncOk ix := by
  obtain ⟨e1, e2, e3, _, _⟩ := buildA_ok hf vs declared m kvs ix h
  obtain ⟨p1, p3, b⟩ := bucketsOk_of_build hf vs declared m kvs ix h hvs hn
  exact { vs_pos := e1 ▸ p1, vs_le := b.vs_le, nb_pos := e2 ▸ p3, nb_lt := e2 ▸ hnb, len := b.len,
          meta_n := e3 ▸ hm.1, meta_kv := e3 ▸ hm.2, nonce := b.nonce, count := b.count, hash := b.hash,
          size := encode_length_lt hf vs declared m kvs ix h hm (Nat.le_trans hvs (Nat.sub_le _ _)) hnb hn }

/-- when only `valueSize`-byte values are inserted, only such values are stored -/
theorem valsOk_of_build (hf : HF) (vs declared : Nat) (m : List (Bytes × Bytes)) (kvs : List KV) (ix : IndexA)
    (h : buildA hf vs declared m kvs = .ok ix) (hval : ∀ kv ∈ kvs, kv.val.length = vs) : ValsOk ix := by
  obtain ⟨e1, _, _, _, _⟩ := buildA_ok hf vs declared m kvs ix h
  obtain ⟨_, hbk⟩ := buckets_sealed_of_build hf vs declared m kvs ix h
  intro b hb j hj
  obtain ⟨i, _, hs⟩ := hbk b hb
  obtain ⟨kv, hkv, he⟩ := (sealBucket_entries hf _ b hs).2.2 j hj
  rw [he, e1]
  unfold bucketKVs at hkv
  exact hval kv (List.mem_filter.mp hkv).1

end CI
