import Faithful.Lib.Request
/-! `Safe` / `NoPanic`, in which every statement of property C08 is written, then their rules and one `…_safe` theorem
per function of the request model. -/
namespace Req
open Outcome

namespace Outcome
variable {α β : Type} {P P' : α → Prop} {Q : β → Prop}

/-- The vocabulary of `Properties/C08.lean`: the step `x` does not panic and what it returns satisfies `P`.  It stands
here and not beside `Outcome` because `Lib/Request.lean` holds the model only. -/
def Safe (P : α → Prop) : Outcome α → Prop
  | .ok a => P a
  | .err _ => True
  | .panic _ => False

abbrev NoPanic (x : Outcome α) : Prop := Safe (fun _ => True) x

theorem Safe.ne_panic {x : Outcome α} (h : Safe P x) (why : String) : x ≠ .panic why := by
  rintro rfl; exact h

theorem Safe.of_ok {x : Outcome α} {a : α} (h : Safe P x) (hx : x = .ok a) : P a := by
  subst hx; exact h

theorem Safe.bind {x : Outcome α} {f : α → Outcome β} (hx : Safe P x) (hf : ∀ a, P a → Safe Q (f a)) :
    Safe Q (x.bind f) := by
  cases x with
  | ok a => exact hf a hx
  | err e => trivial
  | panic w => exact hx

theorem Safe.dite {c : Prop} [Decidable c] {x y : Outcome α} (hx : c → Safe P x) (hy : ¬ c → Safe P y) :
    Safe P (if c then x else y) := by
  split
  · exact hx ‹_›
  · exact hy ‹_›

theorem Safe.ite {c : Prop} [Decidable c] {x y : Outcome α} (hx : Safe P x) (hy : Safe P y) :
    Safe P (if c then x else y) :=
  Safe.dite (fun _ => hx) fun _ => hy

@[simp] theorem safe_ok {a : α} : Safe P (.ok a) ↔ P a := Iff.rfl
@[simp] theorem safe_err {e : String} : Safe P (.err e) := trivial
@[simp] theorem safe_panic {w : String} : ¬ Safe P (.panic w) := id
@[simp] theorem safe_ite {c : Prop} [Decidable c] {x y : Outcome α} :
    Safe P (if c then x else y) ↔ (c → Safe P x) ∧ (¬ c → Safe P y) := by
  split <;> simp [*]
end Outcome

theorem index_safe {α} {xs : List α} {i : Nat} (h : i < xs.length) : NoPanic (index xs i) := by
  rw [index_ok xs i h]; trivial

theorem deref_safe {α} {p : Option α} (h : p.isSome = true) (site : String) : NoPanic (deref p site) := by
  cases p with
  | some a => trivial
  | none => cases h

theorem firstParam_safe {α β} {P : α → Prop} {xs : List β} {m : String} {k : β → Outcome α} (hk : ∀ a, Safe P (k a)) :
    Safe P (if xs.length < 1 then .err m else (index xs 0).bind k) :=
  Safe.dite (fun _ => trivial) fun _ => (index_safe (by omega)).bind fun a _ => hk a

theorem secondParam_safe {α β} {P : α → Prop} {xs : List β} {k : β → Outcome α} {d : Outcome α}
    (hk : ∀ a, Safe P (k a)) (hd : Safe P d) : Safe P (if xs.length > 1 then (index xs 1).bind k else d) :=
  Safe.dite (fun _ => (index_safe (by omega)).bind fun a _ => hk a) fun _ => hd

theorem optString_some {kvs k d v} (h : optString kvs k (some d) = .ok v) : v.isSome = true := by
  unfold optString at h
  split at h <;> cases h <;> rfl

theorem optBoolean_some {kvs k d v} (h : optBoolean kvs k (some d) = .ok v) : v.isSome = true := by
  unfold optBoolean at h
  split at h <;> cases h <;> rfl

/-- the options `handleGetBlock` dereferences -/
def BlockOpts.Established (o : BlockOpts) : Prop :=
  o.commitment.isSome = true ∧ o.encoding.isSome = true ∧ o.txDetails.isSome = true ∧ o.rewards.isSome = true

theorem blockOptsOf_establishes {kvs o} (h : blockOptsOf kvs = .ok o) : o.Established := by
  unfold blockOptsOf at h
  split at h; · cases h
  split at h; · cases h
  split at h; · cases h
  split at h; · cases h
  split at h; · cases h
  cases h
  -- each `‹_›` is the equation of the `split` that read the field in question: commitment, encoding, txDetails, rewards
  exact ⟨optString_some ‹_›, optString_some ‹_›, optString_some ‹_›, optBoolean_some ‹_›⟩

theorem txOptsOf_establishes {kvs o} (h : txOptsOf kvs = .ok o) : o.encoding.isSome = true := by
  unfold txOptsOf at h
  split at h; · cases h
  split at h; · cases h
  split at h; · cases h
  cases h
  exact optString_some ‹_›

theorem parseGetBlockBody_safe (r : Json) : Safe (fun q => q.opts.Established) (parseGetBlockBody r) := by
  unfold parseGetBlockBody
  split
  · trivial
  · refine firstParam_safe fun p0 => ?_
    split
    · refine secondParam_safe (fun p1 => ?_) ⟨rfl, rfl, rfl, rfl⟩
      split
      · split
        · exact blockOptsOf_establishes ‹_›
        · trivial
      · trivial
    · trivial

theorem parseGetTransactionBody_safe (r : Json) :
    Safe (fun q => q.opts.encoding.isSome = true) (parseGetTransactionBody r) := by
  unfold parseGetTransactionBody
  split
  · trivial
  · refine firstParam_safe fun p0 => ?_
    split
    · split
      · trivial
      · refine secondParam_safe (fun p1 => ?_) rfl
        split
        · split
          · exact txOptsOf_establishes ‹_›
          · trivial
        · trivial
    · trivial

theorem parseGetBlockTimeBody_safe (r : Json) : NoPanic (parseGetBlockTimeBody r) := by
  unfold parseGetBlockTimeBody
  split
  · trivial
  · refine firstParam_safe fun p0 => ?_
    split <;> trivial

theorem parseGsfaBody_safe (r : Json) : NoPanic (parseGsfaBody r) := by
  unfold parseGsfaBody
  split
  · trivial
  · refine firstParam_safe fun p0 => ?_
    split
    · refine Safe.ite trivial <| secondParam_safe (fun p1 => ?_) trivial
      split
      · split
        · trivial
        · split <;> trivial
      · trivial
    · trivial

/-- stated on the unfolded body that `parseGetBlock`, `parseGetTransaction`, `parseGetBlockTime` and `parseGsfa` share,
literals included; it applies to each of them by definitional unfolding -/
theorem parse_safe {α} {P : α → Prop} {body : Json → Outcome α} (hb : ∀ r, Safe P (body r)) (raw : Option Json) :
    Safe P (match raw with
      | none => .err "params are required"
      | some r => (deref (some r) "*raw").bind body) := by
  cases raw with
  | none => trivial
  | some r => exact hb r

theorem parseGetBlock_safe (raw : Option Json) : Safe (fun q => q.opts.Established) (parseGetBlock raw) :=
  parse_safe parseGetBlockBody_safe raw

theorem parseGetTransaction_safe (raw : Option Json) :
    Safe (fun q => q.opts.encoding.isSome = true) (parseGetTransaction raw) :=
  parse_safe parseGetTransactionBody_safe raw

theorem parseGetBlockTime_safe (raw : Option Json) : NoPanic (parseGetBlockTime raw) :=
  parse_safe parseGetBlockTimeBody_safe raw

theorem parseGsfa_safe (raw : Option Json) : NoPanic (parseGsfa raw) :=
  parse_safe parseGsfaBody_safe raw

theorem validateEncoding_safe (jp : Bool) (enc : Option String) : NoPanic (validateEncoding jp enc) := by
  unfold validateEncoding
  refine Safe.dite (fun h => (deref_safe h _).bind fun e _ => ?_) fun _ => trivial
  refine Safe.ite trivial <| Safe.dite (fun h => (deref_safe h _).bind fun e2 _ => ?_) fun _ => trivial
  split <;> trivial

theorem sliceFrom_safe {s pre : String} (h : startsWith s pre = true) : NoPanic (sliceFrom s pre.toList.length) := by
  unfold sliceFrom
  rw [if_pos (List.isPrefixOf_iff_prefix.mp h).length_le]
  trivial

theorem apiHandler_safe (w : World) (r : HttpReq) : NoPanic (apiHandler w r) := by
  unfold apiHandler
  -- which prefixes are tested is immaterial; with the literals in place unification evaluates `"…".toList.length`
  generalize "/api/v1/slot-to-cid/" = p1, "/api/v1/sig-to-cid/" = p2
  refine Safe.ite trivial <| Safe.dite (fun h => (sliceFrom_safe h).bind fun rest _ => ?_) fun _ =>
    Safe.dite (fun h => (sliceFrom_safe h).bind fun rest _ => ?_) fun _ => trivial
  · split
    · trivial
    · split <;> trivial
  · split <;> trivial

theorem mustPubkey_safe {s} (h : pubkeyOk s = true) : NoPanic (mustPubkey s) := by
  unfold mustPubkey
  rw [if_pos h]
  trivial

theorem scanAccounts_safe (xs : List String) (hit : String → Bool) (b : Bool) (h : xs.all pubkeyOk = true) :
    NoPanic (scanAccounts xs hit b) := by
  induction xs with
  | nil => trivial
  | cons a r ih =>
    rw [List.all_cons, Bool.and_eq_true] at h
    exact (mustPubkey_safe h.1).bind fun _ _ => Safe.ite trivial <| ih h.2

theorem mustAll_safe (xs : List String) (h : xs.all pubkeyOk = true) : NoPanic (mustAll xs) := by
  induction xs with
  | nil => trivial
  | cons a r ih =>
    rw [List.all_cons, Bool.and_eq_true] at h
    exact (mustPubkey_safe h.1).bind fun _ _ => ih h.2

theorem filterStep_safe (f : Option TxFilter) (hv : validateFilter f = true) (gsfaLoaded : Bool) (tx : TxFacts) :
    NoPanic (filterStep f gsfaLoaded tx) := by
  cases f with
  | none => trivial
  | some f =>
    simp only [validateFilter, Bool.and_eq_true] at hv
    obtain ⟨⟨hi, he⟩, hr⟩ := hv
    have ok (b : Bool) : NoPanic (if b = true then .ok false else .ok true : Outcome Bool) := by
      cases b <;> trivial
    refine Safe.ite trivial <| Safe.ite trivial <|
      Safe.bind (P := fun _ => True) (Safe.ite (scanAccounts_safe _ _ _ hi) trivial) fun _ _ =>
      Safe.ite trivial <| (scanAccounts_safe _ _ _ he).bind fun _ _ =>
      Safe.ite trivial <| (scanAccounts_safe _ _ _ hr).bind fun m _ => ok m

theorem scanTxs_safe (f : Option TxFilter) (hv : validateFilter f = true) (g : Bool) (txs : List TxFacts) :
    NoPanic (scanTxs f g txs) := by
  induction txs with
  | nil => trivial
  | cons t rest ih => exact (filterStep_safe f hv g t).bind fun _ _ => ih

end Req
