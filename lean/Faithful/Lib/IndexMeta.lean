import Faithful.Lib.CompactIndexBytes

/-!
Model of `indexmeta.Meta` (indexmeta/indexmeta.go) and of the identity entries the index writers store in it
(indexes/metadata.go `setDefaultMetadata` / `getDefaultMetadata`; cmd-x-index-gsfa.go, cmd-x-index-sig-exists.go:
`AddUint64(epoch)`, `AddCid(rootCid)`, `AddString(network)`).

The bytes are those of `CI.metaBytes` / `CI.parseMeta` (count ‖ (klen ‖ k ‖ vlen ‖ v)*), which the C04 run compares byte for
byte with real sealed files; this file adds the size limits of `MarshalBinary`, the accessors and the round-trip theorems.
A root CID is the byte string `cid.Bytes()`; `cid.Cast` / `cid.CidFromBytes` of those bytes is go-cid (third party).
-/
namespace IndexMeta
open B

abbrev KVs := List (Bytes × Bytes)

/-- the limits `MarshalBinary` enforces -/
def fits (m : KVs) : Prop :=
  m.length ≤ Generated.metaMaxNumKVs ∧
  ∀ kv ∈ m, kv.1.length ≤ Generated.metaMaxKeySize ∧ kv.2.length ≤ Generated.metaMaxValueSize

instance (m : KVs) : Decidable (fits m) := by unfold fits; exact inferInstance

/-- `Meta.MarshalBinary`: error (`none`) beyond 255 pairs / 255-byte keys / 255-byte values -/
def encode (m : KVs) : Option Bytes := if fits m then some (CI.metaBytes m) else none

/-- `Meta.UnmarshalBinary` -/
def decode (b : Bytes) : Option KVs := CI.parseMeta b

/-- `Meta.Get`: first value stored under the key -/
def get (m : KVs) (key : Bytes) : Option Bytes := (m.find? fun kv => kv.1 == key).map (·.2)

def keyKind : Bytes := [107, 105, 110, 100]                       -- "kind"
def keyEpoch : Bytes := [101, 112, 111, 99, 104]                  -- "epoch"
def keyRootCid : Bytes := [114, 111, 111, 116, 67, 105, 100]      -- "rootCid"
def keyNetwork : Bytes := [110, 101, 116, 119, 111, 114, 107]     -- "network"

/-- result of reading a little-endian uint64 out of a value: `Meta.GetUint64` answers `(0, false)` and
    `getDefaultMetadata` an error for a value shorter than 8 bytes (fix 1e2c254; `b[7]` panicked before) -/
inductive U64 where
  | absent
  | invalid          -- value shorter than 8 bytes: not a uint64
  | val (n : Nat)
deriving DecidableEq, Repr

/-- `Meta.GetUint64` / `indexes.BtoUint64(meta.Get(key))` -/
def getUint64 (m : KVs) (key : Bytes) : U64 :=
  match get m key with
  | none => .absent
  | some v => if v.length < 8 then .invalid else .val (unle (v.take 8))

/-- the identity a writer records -/
structure Ident where
  kind : Bytes
  epoch : Nat
  root : Bytes
  network : Bytes
deriving DecidableEq, Repr

/-- indexes.setDefaultMetadata, in the order it adds the entries -/
def defaultMeta (i : Ident) : KVs :=
  [(keyEpoch, le 8 i.epoch), (keyRootCid, i.root), (keyNetwork, i.network), (keyKind, i.kind)]

/-- what `index gsfa` / `index sig-exists` put into the manifest / bucketteer header (no kind) -/
def plainMeta (epoch : Nat) (root network : Bytes) : KVs :=
  [(keyEpoch, le 8 epoch), (keyRootCid, root), (keyNetwork, network)]

/-- indexes.getDefaultMetadata: all four entries must be present -/
def readDefault (m : KVs) : Option Ident :=
  match get m keyKind, getUint64 m keyEpoch, get m keyRootCid, get m keyNetwork with
  | some k, .val e, some r, some n => some ⟨k, e, r, n⟩
  | _, _, _, _ => none

/-! ### round trip -/

/-- whatever `MarshalBinary` accepts, `UnmarshalBinary` reads back unchanged
    (≤ 255 pairs, keys and values ≤ 255 bytes — beyond that `MarshalBinary` refuses). -/
theorem decode_encode (m : KVs) (b : Bytes) (h : encode m = some b) : decode b = some m := by
  unfold encode at h
  split at h
  · rename_i hf
    cases h
    exact CI.parseMeta_enc m hf.1 hf.2
  · cases h

theorem fits_cons {k v : Bytes} {m : KVs} (hk : k.length ≤ 255) (hv : v.length ≤ 255) (hl : m.length < 255)
    (hm : fits m) : fits ((k, v) :: m) :=
  ⟨hl, fun _ h => (List.mem_cons.mp h).elim (fun e => e ▸ ⟨hk, hv⟩) (hm.2 _)⟩

theorem get_cons (k v : Bytes) (m : KVs) (key : Bytes) :
    get ((k, v) :: m) key = if k = key then some v else get m key := by
  unfold get
  rw [List.find?_cons]
  by_cases h : k = key
  · rw [if_pos h, beq_iff_eq.mpr h]; rfl
  · rw [if_neg h, beq_eq_false_iff_ne.mpr h]

/-- the three entries every writer records, read back in front of any further entries -/
theorem get_plain (epoch : Nat) (root network : Bytes) (tail : KVs) (he : epoch < 2 ^ 64) :
    getUint64 ((keyEpoch, le 8 epoch) :: (keyRootCid, root) :: (keyNetwork, network) :: tail) keyEpoch = .val epoch ∧
    get ((keyEpoch, le 8 epoch) :: (keyRootCid, root) :: (keyNetwork, network) :: tail) keyRootCid = some root ∧
    get ((keyEpoch, le 8 epoch) :: (keyRootCid, root) :: (keyNetwork, network) :: tail) keyNetwork = some network ∧
    get ((keyEpoch, le 8 epoch) :: (keyRootCid, root) :: (keyNetwork, network) :: tail) keyKind = get tail keyKind := by
  refine ⟨?_, ?_, ?_, ?_⟩
  · have h8 : (le 8 epoch).length = 8 := le_length 8 epoch
    rw [getUint64, get_cons, if_pos rfl]
    dsimp only
    rw [if_neg (h8 ▸ Nat.lt_irrefl 8), List.take_of_length_le (Nat.le_of_eq h8), unle_le_of_lt 8 _ (CI.pow8 ▸ he)]
  · rw [get_cons, if_neg (by decide), get_cons, if_pos rfl]
  · rw [get_cons, if_neg (by decide), get_cons, if_neg (by decide), get_cons, if_pos rfl]
  · rw [get_cons, if_neg (by decide), get_cons, if_neg (by decide), get_cons, if_neg (by decide)]

theorem fits_plain (epoch : Nat) {root network : Bytes} (hr : root.length ≤ 255) (hn : network.length ≤ 255)
    {tail : KVs} (hl : tail.length < 253) (ht : fits tail) :
    fits ((keyEpoch, le 8 epoch) :: (keyRootCid, root) :: (keyNetwork, network) :: tail) :=
  fits_cons (by decide) (by rw [le_length]; decide) (by simp only [List.length_cons]; omega)
    (fits_cons (by decide) hr (by simp only [List.length_cons]; omega) (fits_cons (by decide) hn (by omega) ht))

/-- kind, epoch, root CID and network written by `setDefaultMetadata` and sealed into the header are what
    `getDefaultMetadata` returns after `UnmarshalBinary` -/
theorem ident_roundtrip (i : Ident) (he : i.epoch < 2 ^ 64) (hk : i.kind.length ≤ 255) (hr : i.root.length ≤ 255)
    (hn : i.network.length ≤ 255) :
    ∃ b, encode (defaultMeta i) = some b ∧ (decode b).bind readDefault = some i := by
  have hf : fits (defaultMeta i) :=
    fits_plain i.epoch hr hn (by show 1 < 253; decide) (fits_cons (by decide) hk (by decide) ⟨by decide, fun _ h => nomatch h⟩)
  refine ⟨_, if_pos hf, ?_⟩
  obtain ⟨g1, g2, g3, g4⟩ := get_plain i.epoch i.root i.network [(keyKind, i.kind)] he
  rw [decode_encode _ _ (if_pos hf), Option.bind_some, readDefault, defaultMeta, g1, g2, g3, g4, get_cons, if_pos rfl]

/-- the same for the manifest / sig-exists entries (typed accessors `GetUint64`, `GetCid`, `GetString`) -/
theorem plain_roundtrip (epoch : Nat) (root network : Bytes) (he : epoch < 2 ^ 64) (hr : root.length ≤ 255)
    (hn : network.length ≤ 255) :
    ∃ b, encode (plainMeta epoch root network) = some b ∧
      ∃ m, decode b = some m ∧ getUint64 m keyEpoch = .val epoch ∧ get m keyRootCid = some root ∧
        get m keyNetwork = some network ∧ get m keyKind = none := by
  have hf : fits (plainMeta epoch root network) := fits_plain epoch hr hn (by decide) ⟨by decide, fun _ h => nomatch h⟩
  exact ⟨_, if_pos hf, _, decode_encode _ _ (if_pos hf), get_plain epoch root network [] he⟩

end IndexMeta
