import Faithful.Lib.AccumCar

/-!
# The hand-off between the reading goroutine and the callback goroutine of `accum.ObjectAccumulator`

`/repo/accum/block.go`: `Run` (producer) reads sections, appends to `children`, and on a flush-kind object (or EOF)
calls `sendToFlusher`: `flushWg.Add(1)`, `fb := flushBufferPool.Get()`, fills `fb.parent / fb.children`, sends `fb`
on the buffered channel `flushQueue`; `startFlusher` (consumer) receives, calls `flush` (the callback), `flushWg.Done()`,
`fb.Reset(); flushBufferPool.Put(fb)`.  At EOF the producer waits for the WaitGroup and closes the channel.

The model is a transition system whose steps are the accesses to the shared objects (channel, pool, WaitGroup), one per
step, so every interleaving of the two goroutines at the granularity of the (linearizable) sync primitives is a
schedule.  Memory is explicit: `store` maps array ids to backing arrays, a Go slice is `(array id, len)`, `fbs` maps
`*flushBuffer` ids to their two fields, the pool is a bag of ids that may lose its content at any time (`gc`), and may
hold stale buffers from earlier runs.  So "the consumer sees what was sent" is a statement about aliasing, not an axiom.
-/
namespace Accum

/-! ## memory -/

def upd {α : Type} (f : Nat → α) (i : Nat) (v : α) : Nat → α := fun j => if j = i then v else f j

@[simp] theorem upd_same {α : Type} (f : Nat → α) (i : Nat) (v : α) : upd f i v i = v := by simp [upd]
theorem upd_other {α : Type} (f : Nat → α) (i j : Nat) (v : α) (h : j ≠ i) : upd f i v j = f j := by simp [upd, h]

/-- backing array of a `[]ObjectWithMetadata`: the initialised cells (newest first) and the capacity -/
structure Arr where
  rc : List Obj
  cap : Nat
deriving Inhabited

/-- the first `n` cells, in index order: what a slice `(array, len = n)` shows -/
def Arr.read (a : Arr) (n : Nat) : List Obj := a.rc.reverse.take n

/-- `array[i] = x` (initialising cell `i` when it is the next one) -/
def Arr.write (a : Arr) (i : Nat) (x : Obj) : Arr :=
  if i = a.rc.length then { a with rc := x :: a.rc }
  else if i < a.rc.length then { a with rc := a.rc.set (a.rc.length - 1 - i) x }
  else a

/-- a write at index `i` is invisible through every slice of length `≤ i` -/
theorem Arr.read_write_le (a : Arr) (i n : Nat) (x : Obj) (h : n ≤ i) : (a.write i x).read n = a.read n := by
  unfold Arr.write Arr.read
  by_cases h1 : i = a.rc.length
  · simp only [h1, if_true, List.reverse_cons]
    rw [List.take_append_of_le_length (by simp; omega)]
  · simp only [h1, if_false]
    by_cases h2 : i < a.rc.length
    · simp only [h2, if_true]
      rw [List.take_reverse, List.take_reverse, List.length_set, List.drop_set_of_lt (by omega)]
    · simp only [h2, if_false]

theorem Arr.read_write_end (a : Arr) {n : Nat} (h : a.rc.length = n) (x : Obj) :
    (a.write n x).read (n + 1) = a.read n ++ [x] := by
  subst h
  unfold Arr.write Arr.read
  simp only [if_true, List.reverse_cons]
  rw [List.take_of_length_le (by simp), List.take_of_length_le (by simp)]

theorem Arr.write_end_length (a : Arr) {n : Nat} (h : a.rc.length = n) (x : Obj) :
    (a.write n x).rc.length = n + 1 := by
  subst h
  unfold Arr.write
  simp

theorem Arr.read_length (a : Arr) {n : Nat} (h : n ≤ a.rc.length) : (a.read n).length = n := by
  rw [Arr.read, List.length_take, List.length_reverse]
  exact Nat.min_eq_left h

/-- Go slice header: pointer (array id) and length; the capacity is the array's -/
structure Slice where
  arr : Nat
  len : Nat
deriving DecidableEq, Repr, Inhabited

/-- `flushBuffer` -/
structure FB where
  parent : Option Obj
  sl : Slice
deriving Inhabited

structure Cfg where
  /-- `objectCap` (5 000) -/
  cap0 : Nat
  /-- capacity of `flushQueue` (1 000) -/
  qcap : Nat
  /-- capacity chosen by `growslice` -/
  grow : Nat → Nat

/-- program counter of `Run` -/
inductive PPc where
  | alloc                                   -- `children := make([]ObjectWithMetadata, 0, objectCap)`
  | reading                                 -- `NextNodeBytes()` and what follows, up to `sendToFlusher`
  | add (p : Option Obj) (final : Bool)     -- `oa.flushWg.Add(1)`
  | get (p : Option Obj) (final : Bool)     -- `fb := getFlushBuffer(); fb.parent = head; fb.children = other`
  | enq (fb : Nat) (final : Bool)           -- `oa.flushQueue <- fb`
  | wait                                    -- deferred `oa.flushWg.Wait()`
  | close                                   -- `close(oa.flushQueue)`
  | done
deriving DecidableEq, Repr, Inhabited

/-- program counter of `startFlusher` -/
inductive CPc where
  | idle                -- `case fb := <-oa.flushQueue`
  | call (fb : Nat)     -- `oa.flush(fb.parent, fb.children)`
  | fin (fb : Nat)      -- `oa.flushWg.Done()`
  | put (fb : Nat)      -- `putFlushBuffer(fb)`
  | exited
deriving DecidableEq, Repr, Inhabited

structure St where
  -- heap
  store : Nat → Arr
  nArr : Nat
  fbs : Nat → FB
  nFb : Nat
  -- shared synchronisation objects
  pool : List Nat
  queue : List Nat
  closed : Bool
  wg : Nat
  -- locals of `Run`
  ppc : PPc
  rest : List Sec
  off : Nat
  skip : Nat
  cur : Slice
  -- locals of `startFlusher`
  cpc : CPc
  -- ghost
  /-- every `(head, other)` given to `flush`, `other` read AT CALL TIME -/
  seen : List Group
  /-- the slice headers given to `flush`, to read them again later -/
  handed : List (Option Obj × Slice)
  /-- arrays that have been sent on the channel -/
  sentArrs : List Nat
  /-- the reading goroutine wrote into an array after it was sent -/
  bad : Bool

def readSl (s : St) (sl : Slice) : List Obj := (s.store sl.arr).read sl.len

/-- state after `go oa.startFlusher(ctx)` and `HeaderSize()`; `npool` stale buffers left in the global pool by
    earlier runs -/
def init (c : Car) (skip npool : Nat) : St :=
  { store := fun _ => ⟨[], 0⟩, nArr := 0, fbs := fun _ => ⟨none, ⟨0, 0⟩⟩, nFb := npool,
    pool := List.range npool, queue := [], closed := false, wg := 0,
    ppc := .alloc, rest := c.secs, off := c.header.length, skip := skip, cur := ⟨0, 0⟩,
    cpc := .idle, seen := [], handed := [], sentArrs := [], bad := false }

/-! ## producer steps -/

/-- `children = append(children, element)` -/
def appendObj (cfg : Cfg) (s : St) (o : Obj) : St :=
  let a := s.store s.cur.arr
  if s.cur.len < a.cap then
    { s with store := upd s.store s.cur.arr (a.write s.cur.len o), cur := ⟨s.cur.arr, s.cur.len + 1⟩,
             bad := s.bad || s.sentArrs.contains s.cur.arr }
  else
    -- growslice: a new array holding a copy of the visible cells, then the write
    let a' : Arr := ⟨(a.read s.cur.len).reverse, cfg.grow a.cap⟩
    { s with store := upd s.store s.nArr (a'.write s.cur.len o), cur := ⟨s.nArr, s.cur.len + 1⟩, nArr := s.nArr + 1 }

/-- one iteration of `currentBufferLoop` up to the decision (mirrors `Accum.go` clause by clause) -/
def pRead (cfg : Cfg) (ig : List UInt8) (k : UInt8) (s : St) : St :=
  match s.rest, s.skip with
  | [], _ => { s with ppc := .add none true }
  | sec :: r, n + 1 => { s with rest := r, off := s.off + sec.secLen, skip := n }
  | sec :: r, 0 =>
    let o : Obj := ⟨sec.cid, s.off, sec.secLen, sec.data⟩
    let s' := { s with rest := r, off := s.off + sec.secLen }
    if kindOf sec.data = k then { s' with ppc := .add (some o) false }
    else if ignored ig (kindOf sec.data) then s'
    else appendObj cfg s' o

def stepP (cfg : Cfg) (ig : List UInt8) (k : UInt8) (n : Nat) (s : St) : St :=
  match s.ppc with
  | .alloc =>
    { s with store := upd s.store s.nArr ⟨[], cfg.cap0⟩, cur := ⟨s.nArr, 0⟩, nArr := s.nArr + 1, ppc := .reading }
  | .reading => pRead cfg ig k s
  | .add p f => { s with wg := s.wg + 1, ppc := .get p f }
  | .get p f =>
    match s.pool[n]? with
    | some fb => { s with pool := s.pool.erase fb, fbs := upd s.fbs fb ⟨p, s.cur⟩, ppc := .enq fb f }
    | none => { s with nFb := s.nFb + 1, fbs := upd s.fbs s.nFb ⟨p, s.cur⟩, ppc := .enq s.nFb f }   -- `New`
  | .enq fb f =>
    if s.queue.length < cfg.qcap then
      { s with queue := s.queue ++ [fb], sentArrs := (s.fbs fb).sl.arr :: s.sentArrs,
               ppc := if f then .wait else .alloc }
    else s
  | .wait => if s.wg = 0 then { s with ppc := .close } else s
  | .close => { s with closed := true, ppc := .done }
  | .done => s

/-! ## consumer steps -/

/-- the cell the callback writes, if any: with `app` it does what `cmd-car-split.go` does,
    `family := append(children, *parent)`, which writes into the delivered backing array when it has room
    (otherwise `append` copies into an array of its own, which nobody else ever sees) -/
def cbWrite (app : Bool) (s : St) (f : FB) : Option (Nat × Arr) :=
  match app, f.parent with
  | true, some p =>
    let a := s.store f.sl.arr
    if f.sl.len < a.cap then some (f.sl.arr, a.write f.sl.len p) else none
  | _, _ => none

/-- the heap after the callback (specification form of the `match` in `stepC`) -/
def cbStore (app : Bool) (s : St) (f : FB) : Nat → Arr :=
  match cbWrite app s f with
  | some (i, v) => upd s.store i v
  | none => s.store

def stepC (app : Bool) (s : St) : St :=
  match s.cpc with
  | .idle =>
    match s.queue with
    | fb :: q => { s with queue := q, cpc := .call fb }
    | [] => if s.closed then { s with cpc := .exited } else s
  | .call fb =>
    let f := s.fbs fb
    let s1 := { s with seen := s.seen ++ [⟨f.parent, readSl s f.sl⟩], handed := s.handed ++ [(f.parent, f.sl)],
                       cpc := .fin fb }
    match cbWrite app s f with
    | some (i, v) => { s1 with store := upd s.store i v }
    | none => s1
  | .fin fb => { s with wg := s.wg - 1, cpc := .put fb }
  | .put fb => { s with fbs := upd s.fbs fb ⟨none, ⟨(s.fbs fb).sl.arr, 0⟩⟩, pool := fb :: s.pool, cpc := .idle }
  | .exited => s

theorem stepC_call (app : Bool) (s : St) (fb : Nat) (hc : s.cpc = .call fb) :
    stepC app s = { s with store := cbStore app s (s.fbs fb),
                           seen := s.seen ++ [⟨(s.fbs fb).parent, readSl s (s.fbs fb).sl⟩],
                           handed := s.handed ++ [((s.fbs fb).parent, (s.fbs fb).sl)], cpc := .fin fb } := by
  simp only [stepC, hc, cbStore]
  cases cbWrite app s (s.fbs fb) with
  | none => rfl
  | some iv => rfl

/-! ## schedules -/

inductive Ev where
  | p (n : Nat)       -- the reading goroutine takes a step (`n`: which pooled buffer `Get` returns, if any)
  | c (app : Bool)    -- the flusher goroutine takes a step
  | gc                -- the runtime empties the `sync.Pool`
deriving Repr, Inhabited

def step (cfg : Cfg) (ig : List UInt8) (k : UInt8) (s : St) : Ev → St
  | .p n => stepP cfg ig k n s
  | .c app => stepC app s
  | .gc => { s with pool := [] }

def exec (cfg : Cfg) (ig : List UInt8) (k : UInt8) (s : St) (σ : List Ev) : St := σ.foldl (step cfg ig k) s

/-- the callback sequence: `flush` does not call back for `(nil, [])` -/
def St.observed (s : St) : List Group := s.seen.filter Group.nonEmpty

/-- what the callbacks' arguments show NOW -/
def St.reread (s : St) : List Group := s.handed.map fun h => ⟨h.1, readSl s h.2⟩

def St.finished (s : St) : Bool := s.ppc == .done && s.cpc == .exited

/-! ## the invariant -/

def resolve (s : St) (fb : Nat) : Group := ⟨(s.fbs fb).parent, readSl s (s.fbs fb).sl⟩

def curLive : PPc → Bool
  | .reading | .add _ _ | .get _ _ | .enq _ _ => true
  | _ => false

def wgP : PPc → Nat
  | .get _ _ | .enq _ _ => 1
  | _ => 0

def heldP : PPc → List Nat
  | .enq fb _ => [fb]
  | _ => []

def wgC : CPc → Nat
  | .call _ | .fin _ => 1
  | _ => 0

def heldC : CPc → List Nat
  | .call fb | .fin fb | .put fb => [fb]
  | _ => []

def callIds : CPc → List Nat
  | .call fb => [fb]
  | _ => []

def restGroups (ig : List UInt8) (k : UInt8) (s : St) (f : Bool) : List Group :=
  if f then [] else go ig k s.rest s.off s.skip []

/-- the groups the producer has still to put on the channel, as memory shows them now -/
def pending (ig : List UInt8) (k : UInt8) (s : St) : List Group :=
  match s.ppc with
  | .alloc => go ig k s.rest s.off s.skip []
  | .reading => go ig k s.rest s.off s.skip (readSl s s.cur)
  | .add p f => ⟨p, readSl s s.cur⟩ :: restGroups ig k s f
  | .get p f => ⟨p, readSl s s.cur⟩ :: restGroups ig k s f
  | .enq fb f => resolve s fb :: restGroups ig k s f
  | .wait | .close | .done => []

def bound (s : St) : Nat := if curLive s.ppc then s.cur.arr else s.nArr

def liveArrs (s : St) : List Nat :=
  s.handed.map (fun h => h.2.arr) ++ (callIds s.cpc ++ s.queue).map (fun fb => (s.fbs fb).sl.arr)

structure Inv (ig : List UInt8) (k : UInt8) (tot : List Group) (s : St) : Prop where
  view : s.seen ++ ((callIds s.cpc ++ s.queue).map (resolve s) ++ pending ig k s) = tot
  ids : (heldC s.cpc ++ (s.queue ++ (heldP s.ppc ++ s.pool))).Nodup
  idsLt : ∀ x ∈ heldC s.cpc ++ (s.queue ++ (heldP s.ppc ++ s.pool)), x < s.nFb
  arrs : (liveArrs s).Nodup
  arrsLt : ∀ a ∈ liveArrs s, a < bound s
  curLt : curLive s.ppc = true → s.cur.arr < s.nArr
  enqSl : ∀ fb f, s.ppc = .enq fb f → (s.fbs fb).sl = s.cur
  curLen : s.ppc = .reading → (s.store s.cur.arr).rc.length = s.cur.len
  stable : s.reread = s.seen
  wgEq : s.wg = s.queue.length + wgC s.cpc + wgP s.ppc
  closedDone : s.closed = true ↔ s.ppc = .done
  wgZero : s.ppc = .close ∨ s.ppc = .done → s.wg = 0
  exitedClosed : s.cpc = .exited → s.closed = true
  notBad : s.bad = false
  sentLt : ∀ a ∈ s.sentArrs, a < bound s

end Accum
