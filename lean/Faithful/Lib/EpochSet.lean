/-!
# The epoch set of `MultiEpoch` (property C09)

Model of `MultiEpoch.epochs : map[uint64]*Epoch` and of the methods of /repo/multiepoch.go,
multiepoch-getTransaction.go (`getAllBucketteers`) and multiepoch-getSignaturesForAddress.go
(`getGsfaReadersInEpochDescendingOrder`) that read or change it.  Every method body runs under `MultiEpoch.mu`
(write lock for the five writers, read lock for the readers), so a concurrent history is a *sequence* of these
operations — the sequence in which the critical sections were entered; that this sequence exists and is finite for every
interleaving is the lock part of C09 (`Faithful/Lib/RWSys.lean`).

Go map iteration order is not modelled as a list order: the only method whose *result* depends on it,
`RemoveEpochByConfigFilepath`, gets the epoch the iteration met first as the argument `pick`, and the theorems
quantify over all `pick`s.
-/
namespace EpochSet

/-- what the model needs to know of an `*Epoch` -/
structure Ep where
  id : Nat          -- identity of the object (the pointer)
  path : String     -- `ep.config.ConfigFilepath()`
  gsfa : Bool       -- `ep.gsfaReader != nil`
  sig : Bool        -- `ep.sigExists != nil`
deriving DecidableEq, Repr

abbrev Map := List (Nat × Ep)

structure St where
  m : Map := []             -- the map; keys pairwise distinct (`WF`)
  closed : List Nat := []   -- ids of the epochs whose `Close()` has run, oldest first
deriving Repr

inductive EpochOp where
  | add (e : Nat) (v : Ep)                                -- AddEpoch
  | replace (e : Nat) (v : Ep)                            -- ReplaceEpoch
  | replaceOrAdd (e : Nat) (v : Ep)                       -- ReplaceOrAddEpoch
  | remove (e : Nat)                                      -- RemoveEpoch
  | removeByConfig (path : String) (pick : Option Nat)    -- RemoveEpochByConfigFilepath; `pick` = first match met
deriving Repr

inductive Res where
  | ok | alreadyExists | notFound | removed (e : Nat)
  | illegalPick          -- the `pick` is not something a map iteration can produce in this state
deriving DecidableEq, Repr

def lookup (e : Nat) : Map → Option Ep
  | [] => none
  | (k, v) :: m => if k = e then some v else lookup e m

def erase (e : Nat) : Map → Map
  | [] => []
  | (k, v) :: m => if k = e then erase e m else (k, v) :: erase e m

def insert (e : Nat) (v : Ep) (m : Map) : Map := (e, v) :: erase e m

def keys (m : Map) : List Nat := m.map (·.1)

/-- the state after one writer -/
def step (s : St) : EpochOp → St
  | .add e v => if (lookup e s.m).isSome then s else { s with m := insert e v s.m }
  | .replace e v => if (lookup e s.m).isSome then { s with m := insert e v s.m } else s
  | .replaceOrAdd e v =>
    match lookup e s.m with
    | some old => { m := insert e v s.m, closed := s.closed ++ [old.id] }      -- `oldEp.Close()`
    | none => { s with m := insert e v s.m }
  | .remove e => if (lookup e s.m).isSome then { s with m := erase e s.m } else s   -- NB: does not Close
  | .removeByConfig p pick =>
    match pick with
    | none => s
    | some e =>
      match lookup e s.m with
      | some v => if v.path = p then { m := erase e s.m, closed := s.closed ++ [v.id] } else s
      | none => s

/-- what the writer returns -/
def result (s : St) : EpochOp → Res
  | .add e _ => if (lookup e s.m).isSome then .alreadyExists else .ok
  | .replace e _ => if (lookup e s.m).isSome then .ok else .notFound
  | .replaceOrAdd _ _ => .ok
  | .remove e => if (lookup e s.m).isSome then .ok else .notFound
  | .removeByConfig p pick =>
    match pick with
    | none => if s.m.all (fun kv => kv.2.path != p) then .notFound else .illegalPick
    | some e =>
      match lookup e s.m with
      | some v => if v.path = p then .removed e else .illegalPick
      | none => .illegalPick

def run (s : St) (ops : List EpochOp) : St := ops.foldl step s

/-! ### readers -/

/-- `GetEpochNumbers`: collect the keys, sort with `a > b` -/
def numbers (s : St) : List Nat := (keys s.m).mergeSort (fun a b => decide (a ≥ b))

def getEpoch (s : St) (e : Nat) : Option Ep := lookup e s.m
def hasEpoch (s : St) (e : Nat) : Bool := (lookup e s.m).isSome
def count (s : St) : Nat := s.m.length

/-- `GetMostRecentAvailableEpoch` -/
def mostRecent (s : St) : Option Ep :=
  match numbers s with
  | [] => none
  | e :: _ => lookup e s.m

/-- `GetOldestAvailableEpoch` -/
def oldest (s : St) : Option Ep :=
  match (numbers s).getLast? with
  | none => none
  | some e => lookup e s.m

/-- `getGsfaReadersInEpochDescendingOrder`: epoch numbers of the epochs that have a gsfa reader, newest first -/
def gsfaNumbers (s : St) : List Nat := (numbers s).filter fun e => (lookup e s.m).any (·.gsfa)

/-- `getAllBucketteers`: the keys of the returned map, listed oldest first -/
def bucketteerNumbers (s : St) : List Nat := ((numbers s).filter fun e => (lookup e s.m).any (·.sig)).reverse

theorem lookup_erase (e e' : Nat) (m : Map) : lookup e' (erase e m) = if e' = e then none else lookup e' m := by
  induction m with
  | nil => simp [erase, lookup]
  | cons kv m ih =>
    obtain ⟨k, v⟩ := kv
    by_cases hk : k = e
    · subst hk
      simp only [erase, if_true, lookup]
      rw [ih]
      by_cases h2 : e' = k
      · simp [h2]
      · have : ¬ k = e' := fun h => h2 h.symm
        simp [h2, this]
    · simp only [erase, if_neg hk, lookup]
      rw [ih]
      by_cases h2 : e' = e
      · subst h2; simp [hk]
      · simp [h2]

theorem lookup_insert (e e' : Nat) (v : Ep) (m : Map) :
    lookup e' (insert e v m) = if e' = e then some v else lookup e' m := by
  simp only [insert, lookup, lookup_erase]
  by_cases h : e' = e
  · subst h; simp
  · have : ¬ e = e' := fun h2 => h h2.symm
    simp [h, this]

theorem mem_keys_iff (e : Nat) (m : Map) : e ∈ keys m ↔ (lookup e m).isSome = true := by
  induction m with
  | nil => simp [keys, lookup]
  | cons kv m ih =>
    obtain ⟨k, v⟩ := kv
    simp only [keys] at ih
    simp only [keys, List.map_cons, List.mem_cons, lookup]
    by_cases hk : k = e
    · simp [hk]
    · have : ¬ e = k := fun h => hk h.symm
      simp [hk, this, ih]

/-! ### the map invariant -/

def WF (s : St) : Prop := (keys s.m).Nodup

theorem mem_keys_erase {e k : Nat} {m : Map} : k ∈ keys (erase e m) ↔ k ∈ keys m ∧ k ≠ e := by
  rw [mem_keys_iff, mem_keys_iff, lookup_erase]
  by_cases h : k = e <;> simp [h]

theorem nodup_keys_erase {e : Nat} {m : Map} (h : (keys m).Nodup) : (keys (erase e m)).Nodup := by
  induction m with
  | nil => simp [erase, keys]
  | cons kv m ih =>
    obtain ⟨k', v⟩ := kv
    simp only [keys, List.map_cons, List.nodup_cons] at h
    by_cases hk : k' = e
    · simp only [erase, if_pos hk]; exact ih h.2
    · simp only [erase, if_neg hk, keys, List.map_cons, List.nodup_cons]
      refine ⟨?_, ih h.2⟩
      intro hmem
      exact h.1 (mem_keys_erase.1 hmem).1

theorem nodup_keys_insert {e : Nat} {v : Ep} {m : Map} (h : (keys m).Nodup) : (keys (insert e v m)).Nodup := by
  simp only [insert, keys, List.map_cons, List.nodup_cons]
  refine ⟨?_, nodup_keys_erase h⟩
  intro hmem
  exact (mem_keys_erase.1 hmem).2 rfl

theorem wf_empty : WF {} := by simp [WF, keys]

/-- **The list of available epochs is strictly descending** (hence duplicate-free and newest first) in every
    well-formed state. -/
theorem numbers_strict_desc {s : St} (h : WF s) : (numbers s).Pairwise (· > ·) := by
  have hsorted : (numbers s).Pairwise (fun a b => decide (a ≥ b) = true) :=
    List.pairwise_mergeSort (le := fun a b => decide (a ≥ b))
      (fun a b c hab hbc => by simp at *; omega) (fun a b => by simp; omega) (keys s.m)
  have hnodup : (numbers s).Nodup := (List.mergeSort_perm (keys s.m) _).nodup_iff.2 h
  exact List.Pairwise.imp₂ (fun a b h1 h2 => by simp at h1; omega) hsorted hnodup

/-- the listing contains exactly the loaded epochs -/
theorem mem_numbers (s : St) (e : Nat) : e ∈ numbers s ↔ hasEpoch s e = true := by
  simp [numbers, hasEpoch, mem_keys_iff]

theorem length_numbers (s : St) : (numbers s).length = count s := by
  simp [numbers, count, keys, (List.mergeSort_perm _ _).length_eq]

/-- `GetMostRecentAvailableEpoch` returns the epoch with the largest number -/
theorem mostRecent_spec {s : St} (h : WF s) {v : Ep} (hv : mostRecent s = some v) :
    ∃ e, getEpoch s e = some v ∧ ∀ e', hasEpoch s e' = true → e' ≤ e := by
  unfold mostRecent at hv
  have hs := numbers_strict_desc h
  match hn : numbers s with
  | [] => simp [hn] at hv
  | e :: rest =>
    rw [hn] at hv hs
    refine ⟨e, hv, fun e' he' => ?_⟩
    have : e' ∈ e :: rest := hn ▸ (mem_numbers s e').2 he'
    rcases List.mem_cons.1 this with h1 | h1
    · omega
    · have := (List.pairwise_cons.1 hs).1 e' h1; omega

/-- on a non-empty epoch set `GetMostRecentAvailableEpoch` / `GetOldestAvailableEpoch` answer -/
theorem mostRecent_isSome {s : St} (hne : s.m ≠ []) : (mostRecent s).isSome = true := by
  unfold mostRecent
  match hn : numbers s with
  | [] =>
    have := length_numbers s
    rw [hn] at this
    simp only [count, List.length_nil] at this
    exact absurd (List.eq_nil_of_length_eq_zero this.symm) hne
  | e :: rest =>
    have : e ∈ numbers s := by rw [hn]; simp
    exact (mem_numbers s e).1 this

/-! ### frame: epochs that no writer addresses -/

/-- the writer is addressed to epoch `e` -/
def touches (e : Nat) : EpochOp → Prop
  | .add _ _ => False                      -- AddEpoch never changes an epoch that is loaded (it fails)
  | .replace e' _ => e' = e
  | .replaceOrAdd e' _ => e' = e
  | .remove e' => e' = e
  | .removeByConfig _ pick => pick = some e

instance (e : Nat) (op : EpochOp) : Decidable (touches e op) := by
  cases op <;> simp only [touches] <;> exact inferInstance

/-- the object handed to the writer is a new one: not loaded under any number and not closed before
    (cmd-rpc.go always passes the result of a fresh `NewEpochFromConfig`) -/
def freshOp (s : St) : EpochOp → Prop
  | .add _ v | .replace _ v | .replaceOrAdd _ v =>
    (∀ e' v', lookup e' s.m = some v' → v'.id ≠ v.id) ∧ v.id ∉ s.closed
  | _ => True

/-- put `nv` at `e` (`none`: take `e` out), with or without `Close()` on what stood there -/
def write (s : St) (e : Nat) (nv : Option Ep) (close : Bool) : St :=
  { m := match nv with
      | some v => insert e v s.m
      | none => erase e s.m
    closed := if close then s.closed ++ ((lookup e s.m).map (·.id)).toList else s.closed }

/-- what `freshOp s op` says of the object `v` that `op` is handed -/
def Fresh (s : St) (v : Ep) : Prop := (∀ e' v', lookup e' s.m = some v' → v'.id ≠ v.id) ∧ v.id ∉ s.closed

/-- the one case walk over the five writers.  `lookup e s.m = none` is `AddEpoch`, which writes only where nothing is
    loaded and is addressed to no loaded epoch (`touches`). -/
theorem step_eq (s : St) (op : EpochOp) :
    step s op = s ∨ ∃ e nv close, step s op = write s e nv close ∧ (touches e op ∨ lookup e s.m = none) ∧
      ∀ v, nv = some v → freshOp s op → Fresh s v := by
  have put : ∀ {v v' : Ep}, some v = some v' → Fresh s v → Fresh s v' := fun h hf => Option.some.inj h ▸ hf
  cases op with
  | add e v =>
    simp only [step]; split
    · exact .inl rfl
    · rename_i h
      exact .inr ⟨e, some v, false, rfl, .inr (by simpa using h), fun _ hv hf => put hv hf⟩
  | replace e v =>
    simp only [step]; split
    · exact .inr ⟨e, some v, false, rfl, .inl rfl, fun _ hv hf => put hv hf⟩
    · exact .inl rfl
  | replaceOrAdd e v =>
    simp only [step]; split
    · rename_i old hold
      exact .inr ⟨e, some v, true, by simp [write, hold], .inl rfl, fun _ hv hf => put hv hf⟩
    · exact .inr ⟨e, some v, false, rfl, .inl rfl, fun _ hv hf => put hv hf⟩
  | remove e =>
    simp only [step]; split
    · exact .inr ⟨e, none, false, rfl, .inl rfl, nofun⟩
    · exact .inl rfl
  | removeByConfig p pick =>
    simp only [step]; split
    · exact .inl rfl
    · split
      · rename_i e _ old hold
        split
        · exact .inr ⟨e, none, true, by simp [write, hold], .inl rfl, nofun⟩
        · exact .inl rfl
      · exact .inl rfl

theorem lookup_write (s : St) (e e' : Nat) (nv : Option Ep) (close : Bool) :
    lookup e' (write s e nv close).m = if e' = e then nv else lookup e' s.m := by
  cases nv with
  | none => exact lookup_erase e e' s.m
  | some v => exact lookup_insert e e' v s.m

theorem mem_closed_write {s : St} {e : Nat} {nv : Option Ep} {close : Bool} {x : Nat} (h : x ∈ (write s e nv close).closed) :
    x ∈ s.closed ∨ ∃ old, lookup e s.m = some old ∧ x = old.id := by
  unfold write at h
  cases close with
  | false => exact .inl h
  | true =>
    cases hl : lookup e s.m with
    | none => exact .inl (by simpa [hl] using h)
    | some old => simpa [hl] using h

theorem wf_step {s : St} (h : WF s) (op : EpochOp) : WF (step s op) := by
  rcases step_eq s op with heq | ⟨e, nv, close, heq, _⟩ <;> rw [heq]
  · exact h
  · cases nv with
    | none => exact nodup_keys_erase h
    | some v => exact nodup_keys_insert h

theorem wf_run {s : St} (h : WF s) (ops : List EpochOp) : WF (run s ops) := by
  induction ops generalizing s with
  | nil => exact h
  | cons op ops ih => exact ih (wf_step h op)

theorem ne_of_not_touches {s : St} {e e' : Nat} {v : Ep} {op : EpochOp} (hl : lookup e s.m = some v) (h : ¬ touches e op)
    (ha : touches e' op ∨ lookup e' s.m = none) : e ≠ e' := by
  rintro rfl
  rcases ha with ha | ha
  · exact h ha
  · rw [ha] at hl; cases hl

theorem lookup_step_of_not_touches {s : St} {e : Nat} {v : Ep} (hl : lookup e s.m = some v) {op : EpochOp}
    (h : ¬ touches e op) : lookup e (step s op).m = some v := by
  rcases step_eq s op with heq | ⟨e', nv, close, heq, ha, _⟩ <;> rw [heq]
  · exact hl
  · rw [lookup_write, if_neg (ne_of_not_touches hl h ha), hl]

theorem lookup_run_of_not_touches (e : Nat) (v : Ep) (pre : List EpochOp) :
    ∀ s : St, lookup e s.m = some v → (∀ op ∈ pre, ¬ touches e op) → lookup e (run s pre).m = some v := by
  induction pre with
  | nil => intro s hl _; exact hl
  | cons op pre ih =>
    intro s hl hpre
    show lookup e (run (step s op) pre).m = some v
    exact ih (step s op) (lookup_step_of_not_touches hl (hpre op (by simp))) (fun o ho => hpre o (by simp [ho]))

/-- **A query addressed to an epoch that stays loaded behaves as on an idle server**: whatever the writers do to
    *other* epochs (any number of operations, any `pick`s), every read of `e` at any point of the history returns
    the epoch object that was loaded at the start. -/
theorem stable_epoch_unaffected (s : St) (e : Nat) (v : Ep) (hl : getEpoch s e = some v)
    (ops : List EpochOp) (h : ∀ op ∈ ops, ¬ touches e op) :
    ∀ k, getEpoch (run s (ops.take k)) e = some v := by
  intro k
  exact lookup_run_of_not_touches e v (ops.take k) s hl (fun op hop => h op (List.mem_of_mem_take hop))

/-- object identities are not shared between map entries -/
def idsDistinct (s : St) : Prop := ∀ e e' v v', lookup e s.m = some v → lookup e' s.m = some v' → v.id = v'.id → e = e'

/-- one writer that is not addressed to `e` does not close the object loaded at `e` (whole histories, with fresh
    objects: `loaded_never_closed`) -/
theorem closed_step_of_not_touches {s : St} {e : Nat} {v : Ep} (hl : lookup e s.m = some v) (hd : idsDistinct s)
    (hc : v.id ∉ s.closed) {op : EpochOp} (h : ¬ touches e op) : v.id ∉ (step s op).closed := by
  rcases step_eq s op with heq | ⟨e', nv, close, heq, ha, _⟩ <;> rw [heq]
  · exact hc
  · intro hmem
    rcases mem_closed_write hmem with h1 | ⟨old, hold, hid⟩
    · exact hc h1
    · exact ne_of_not_touches hl h ha (hd e e' v old hl hold hid)

/-! ### no loaded epoch is ever closed -/

inductive FreshRun : St → List EpochOp → Prop
  | nil (s : St) : FreshRun s []
  | cons {s : St} {op : EpochOp} {ops : List EpochOp} : freshOp s op → FreshRun (step s op) ops → FreshRun s (op :: ops)

/-- loaded objects are pairwise distinct and none of them has been closed -/
def LiveOpen (s : St) : Prop :=
  idsDistinct s ∧ ∀ e v, lookup e s.m = some v → v.id ∉ s.closed

theorem liveOpen_write {s : St} (h : LiveOpen s) (e : Nat) {nv : Option Ep} (close : Bool) (hf : ∀ v, nv = some v → Fresh s v) :
    LiveOpen (write s e nv close) := by
  obtain ⟨hd, ho⟩ := h
  have entry : ∀ a va, lookup a (write s e nv close).m = some va → (a = e ∧ Fresh s va) ∨ (a ≠ e ∧ lookup a s.m = some va) := by
    intro a va ha
    rw [lookup_write] at ha
    by_cases hae : a = e
    · rw [if_pos hae] at ha; exact .inl ⟨hae, hf va ha⟩
    · rw [if_neg hae] at ha; exact .inr ⟨hae, ha⟩
  constructor
  · intro a b va vb ha hb hid
    rcases entry a va ha with ⟨ha1, hfa⟩ | ⟨ha1, ha2⟩ <;> rcases entry b vb hb with ⟨hb1, hfb⟩ | ⟨hb1, hb2⟩
    · rw [ha1, hb1]
    · exact absurd hid.symm (hfa.1 b vb hb2)
    · exact absurd hid (hfb.1 a va ha2)
    · exact hd a b va vb ha2 hb2 hid
  · intro a va ha hmem
    rcases mem_closed_write hmem with h1 | ⟨old, hold, hid⟩ <;> rcases entry a va ha with ⟨_, hfa⟩ | ⟨ha1, ha2⟩
    · exact hfa.2 h1
    · exact ho a va ha2 h1
    · exact hfa.1 e old hold hid.symm
    · exact ha1 (hd a e va old ha2 hold hid)

theorem liveOpen_step {s : St} (h : LiveOpen s) {op : EpochOp} (hf : freshOp s op) : LiveOpen (step s op) := by
  rcases step_eq s op with heq | ⟨e, nv, close, heq, _, hnv⟩ <;> rw [heq]
  · exact h
  · exact liveOpen_write h e close fun v hv => hnv v hv hf

/-- **No loaded epoch is ever closed**: along every history in which the writers are handed fresh epoch objects,
    the epochs that are in the map (the ones queries can be addressed to) have not had `Close()` called. -/
theorem loaded_never_closed {s : St} (h : LiveOpen s) {ops : List EpochOp} (hf : FreshRun s ops) :
    LiveOpen (run s ops) := by
  induction hf with
  | nil s => exact h
  | cons hop _ ih => exact ih (liveOpen_step h hop)

theorem liveOpen_empty : LiveOpen {} := by
  constructor
  · intro a b va vb ha; simp [lookup] at ha
  · intro a va ha; simp [lookup] at ha

end EpochSet
