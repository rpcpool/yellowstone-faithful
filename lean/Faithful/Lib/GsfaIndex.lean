import Faithful.Lib.GsfaLog
import Faithful.Lib.GsfaRank
/-!
# gsfa (C06): the whole pipeline — `Push`* under any schedule, `Close`, the files, `GsfaReader.Get`
-/
namespace Gsfa

variable {A : AccMap} {Rk : RankMap} {H : HeadMap}

/-- one `GsfaWriter.Push(offset, length, slot, publicKeys, flags…)` call -/
structure PushCall where
  slot : Nat
  addrs : List Addr
  e : Entry
deriving Repr

/-- the client events of one `Push`: the periodic-flush preamble, then one push per address of
    `publicKeys.Dedupe()` / `Sort()` -/
def clientEvents (c : PushCall) : List Ev :=
  .begin c.slot :: (sortDedup c.addrs).map (fun a => .push a c.e)

/-- writer run under the schedule `evs`, `Close`, linked-log file and head index -/
def index (A : AccMap) (Rk : RankMap) (H : HeadMap) (Z : Zstd) (p : Params) (evs : List Ev) : Res (LogSt H) :=
  match buildFrom Z (close p (run p evs (init : St A Rk))).log LogSt.init with
  | .ok s => sealHeads s
  | .error e => .error e

theorem hist_append (a : Addr) (l1 l2 : List Ev) : hist a (l1 ++ l2) = hist a l1 ++ hist a l2 := by
  induction l1 with
  | nil => rfl
  | cons ev l1 ih => rw [List.cons_append, hist_cons, hist_cons, ih, List.append_assoc]

theorem hist_filter_client (a : Addr) (evs : List Ev) : hist a (evs.filter Ev.isClient) = hist a evs := by
  induction evs with
  | nil => rfl
  | cons ev evs ih =>
    cases ev with
    | bgRecv => simp [List.filter, Ev.isClient, ih, hist]
    | begin s => simp [List.filter, Ev.isClient, ih, hist]
    | push a' e => simp [List.filter, Ev.isClient, ih, hist]

theorem hist_map_push (a : Addr) (e : Entry) (l : List Addr) (hp : l.Pairwise (· < ·)) :
    hist a (l.map (fun x => Ev.push x e)) = if a ∈ l then [e] else [] := by
  induction l with
  | nil => rfl
  | cons x xs ih =>
    have hx := List.pairwise_cons.mp hp
    simp only [List.map_cons, hist, ih hx.2, List.mem_cons]
    by_cases hxa : x = a
    · subst hxa
      have : x ∉ xs := fun hm => Nat.lt_irrefl _ (hx.1 x hm)
      simp [this]
    · have : ¬ a = x := fun e => hxa e.symm
      simp [hxa, this]

theorem hist_clientEvents (a : Addr) (c : PushCall) :
    hist a (clientEvents c) = if a ∈ c.addrs then [c.e] else [] := by
  simp only [clientEvents, hist]
  rw [hist_map_push a c.e _ (pairwise_sortDedup _)]
  simp only [mem_sortDedup]

/-- the entries pushed with address `a`, oldest first -/
def pushesOf (a : Addr) (ps : List PushCall) : List Entry := (ps.filter (fun c => decide (a ∈ c.addrs))).map (·.e)

theorem hist_calls (a : Addr) (ps : List PushCall) : hist a (ps.flatMap clientEvents) = pushesOf a ps := by
  induction ps with
  | nil => rfl
  | cons c ps ih =>
    rw [List.flatMap_cons, hist_append, ih, hist_clientEvents]
    unfold pushesOf
    by_cases h : a ∈ c.addrs <;> simp [List.filter, h]

theorem pushCount_filter_client (evs : List Ev) : pushCount (evs.filter Ev.isClient) = pushCount evs := by
  induction evs with
  | nil => rfl
  | cons ev evs ih => cases ev <;> simp [List.filter, Ev.isClient, pushCount, ih]

theorem pushCount_map_push (e : Entry) (l : List Addr) : pushCount (l.map (fun x => Ev.push x e)) = l.length := by
  induction l with
  | nil => rfl
  | cons x xs ih => simp [pushCount, ih]

/-- (address, entry) pairs of a client history -/
def pairCount (ps : List PushCall) : Nat := (ps.map (fun c => (sortDedup c.addrs).length)).sum

theorem pushCount_calls (ps : List PushCall) : pushCount (ps.flatMap clientEvents) = pairCount ps := by
  induction ps with
  | nil => rfl
  | cons c ps ih =>
    rw [List.flatMap_cons, pushCount_append, ih]
    simp [clientEvents, pushCount, pushCount_map_push, pairCount]

/-- **the index round trip at event level**: whatever the schedule, if the writer completes and no record
    reaches 4 GiB, `Get` returns the address's pushes newest first (cut at `limit`), and "not found" exactly
    for an address that was never pushed -/
theorem index_roundtrip (Z : Zstd) (hZ : Z.Lawful) (p : Params) (evs : List Ev)
    (hne : NoEvict p (init : St A Rk) evs)
    (idx : LogSt H) (hidx : index A Rk H Z p evs = .ok idx) (hrec : ∀ r ∈ idx.rrecs, r.length < 2 ^ 32)
    (a : Addr) (limit : Nat) (hl : 0 < limit) :
    readerGet Z idx a limit =
      if hist a evs = [] then .error (.err "notfound") else .ok ((hist a evs).reverse.take limit) := by
  unfold index at hidx
  cases hb : buildFrom Z (close p (run p evs (init : St A Rk))).log (LogSt.init : LogSt H) with
  | error e => rw [hb] at hidx; cases hidx
  | ok s =>
    rw [hb] at hidx
    simp only at hidx
    obtain ⟨rfl, hfit⟩ := sealHeads_ok s idx hidx
    obtain ⟨c, hg, hc⟩ := buildFrom_good Z _ LogSt.init idx [] (fun _ => []) (good_init Z)
      (fun a => by simp) hb hrec
    rw [readerGet_good Z hZ idx c hg a (hfit a) limit hl, hc a, List.nil_append, closed_log p evs hne a]
    simp only [List.reverse_eq_nil_iff]

end Gsfa
