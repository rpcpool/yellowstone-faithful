import Faithful.Lib.CompactIndex

/-! Lemmas about the abstract compact-index model (`CI.buildA`, `CI.lookupA`). -/
namespace CI
open B

theorem leEnt_trans (a b c : Ent) : leEnt a b = true → leEnt b c = true → leEnt a c = true := by
  unfold leEnt; simp; omega

theorem leEnt_total (a b : Ent) : (leEnt a b || leEnt b a) = true := by
  unfold leEnt; simp; omega

theorem sorted_pairwise (l : List Ent) : (l.mergeSort leEnt).Pairwise (fun a b => a.1 ≤ b.1) := by
  have := List.pairwise_mergeSort leEnt_trans leEnt_total l
  refine this.imp ?_
  intro a b h; simpa [leEnt] using h

/-- a sorted list without adjacent equal hashes is strictly sorted -/
theorem strict_of_adjDup_false : ∀ (l : List Ent), l.Pairwise (fun a b => a.1 ≤ b.1) → adjDup l = false →
    l.Pairwise (fun a b => a.1 < b.1)
  | [], _, _ => List.Pairwise.nil
  | [_], _, _ => by simp
  | a :: b :: r, hp, hd => by
    simp only [adjDup, Bool.or_eq_false_iff, beq_eq_false_iff_ne, ne_eq] at hd
    obtain ⟨hab, hrest⟩ := hd
    rw [List.pairwise_cons] at hp
    obtain ⟨ha, hp'⟩ := hp
    have ih := strict_of_adjDup_false (b :: r) hp' hrest
    rw [List.pairwise_cons]
    refine ⟨?_, ih⟩
    intro x hx
    have hb : a.1 < b.1 := by
      have := ha b (List.mem_cons_self ..)
      omega
    rcases List.mem_cons.mp hx with rfl | hx'
    · exact hb
    · have := (List.pairwise_cons.mp ih).1 x hx'
      omega

/-- a sorted list with an adjacent duplicate has a repeated hash -/
theorem adjDup_true_not_nodup : ∀ (l : List Ent), adjDup l = true → ¬ (l.map (·.1)).Nodup
  | [], h => by simp [adjDup] at h
  | [_], h => by simp [adjDup] at h
  | a :: b :: r, h => by
    simp only [adjDup, Bool.or_eq_true, beq_iff_eq] at h
    rcases h with h | h
    · simp [h]
    · have := adjDup_true_not_nodup (b :: r) h
      intro hn
      rw [List.map_cons, List.nodup_cons] at hn
      exact this hn.2

theorem strict_nodup (l : List Ent) (h : l.Pairwise (fun a b => a.1 < b.1)) : (l.map (·.1)).Nodup := by
  rw [List.Nodup, List.pairwise_map]
  exact h.imp (fun hlt => by omega)

/-- on a sorted list, `adjDup` decides whether a hash repeats -/
theorem adjDup_iff (l : List Ent) (hp : l.Pairwise (fun a b => a.1 ≤ b.1)) :
    adjDup l = true ↔ ¬ (l.map (·.1)).Nodup := by
  constructor
  · exact adjDup_true_not_nodup l
  · intro hn
    cases h : adjDup l with
    | true => rfl
    | false => exact absurd (strict_nodup l (strict_of_adjDup_false l hp h)) hn

/-! ### mining -/

theorem mineFrom_spec (hf : HF) (kvs : List KV) : ∀ (f nonce n : Nat) (sorted : List Ent),
    mineFrom hf kvs f nonce = some (n, sorted) →
    sorted = (hashed hf n kvs).mergeSort leEnt ∧ adjDup sorted = false ∧ nonce ≤ n ∧ n < nonce + f := by
  intro f
  induction f with
  | zero => intro nonce n sorted h; simp [mineFrom] at h
  | succ f ih =>
    intro nonce n sorted h
    simp only [mineFrom] at h
    split at h
    · obtain ⟨a, b, c, d⟩ := ih (nonce+1) n sorted h
      exact ⟨a, b, by omega, by omega⟩
    · rename_i hd
      simp only [Option.some.injEq, Prod.mk.injEq] at h
      obtain ⟨rfl, rfl⟩ := h
      exact ⟨rfl, by simpa using hd, Nat.le_refl _, by omega⟩

/-- if every nonce has a collision, mining fails -/
theorem mineFrom_none (hf : HF) (kvs : List KV)
    (hall : ∀ n, adjDup ((hashed hf n kvs).mergeSort leEnt) = true) : ∀ (f nonce : Nat), mineFrom hf kvs f nonce = none := by
  intro f
  induction f with
  | zero => intro nonce; rfl
  | succ f ih => intro nonce; simp only [mineFrom, hall nonce, if_true]; exact ih (nonce+1)

theorem mine_strict (hf : HF) (kvs : List KV) (n : Nat) (sorted : List Ent) (h : mine hf kvs = some (n, sorted)) :
    sorted.Perm (hashed hf n kvs) ∧ sorted.Pairwise (fun a b => a.1 < b.1) := by
  obtain ⟨hs, hd, _, _⟩ := mineFrom_spec hf kvs _ _ _ _ h
  subst hs
  exact ⟨List.mergeSort_perm _ _, strict_of_adjDup_false _ (sorted_pairwise _) hd⟩

/-! ### allSome -/

/-- simpler access lemma: the i-th result is the i-th input -/
theorem allSome_get {α : Type} (l : List (Option α)) (r : List α) (h : allSome l = some r) (i : Nat) (hi : i < l.length) :
    ∃ hr : i < r.length, l[i] = some r[i] := by
  induction l generalizing r i with
  | nil => simp at hi
  | cons a l ih =>
    cases a with
    | none => simp [allSome] at h
    | some a =>
      simp only [allSome] at h
      split at h
      · cases h
      · rename_i l' hl'
        simp only [Option.some.injEq] at h; subst h
        cases i with
        | zero => exact ⟨by simp, by simp⟩
        | succ j =>
          obtain ⟨hr, e⟩ := ih l' hl' j (by simpa using hi)
          exact ⟨by simpa using hr, by simpa using e⟩

theorem allSome_length {α : Type} : ∀ (l : List (Option α)) (r : List α), allSome l = some r → r.length = l.length
  | [], r, h => by simp [allSome] at h; subst h; rfl
  | none :: _, _, h => by simp [allSome] at h
  | some a :: l, r, h => by
    simp only [allSome] at h
    split at h
    · cases h
    · rename_i l' hl'
      simp only [Option.some.injEq] at h; subst h
      simp [allSome_length l l' hl']

theorem allSome_none_of_mem {α : Type} (l : List (Option α)) (h : none ∈ l) : allSome l = none := by
  induction l with
  | nil => simp at h
  | cons a l ih =>
    cases a with
    | none => rfl
    | some a =>
      have : none ∈ l := by simpa using h
      simp [allSome, ih this]

/-! ### build → lookup -/

theorem buildA_ok (hf : HF) (vs declared : Nat) (m : List (Bytes × Bytes)) (kvs : List KV) (ix : IndexA)
    (h : buildA hf vs declared m kvs = .ok ix) :
    ix.valueSize = vs ∧ ix.numBuckets = numBucketsFor declared ∧ ix.metaKVs = m ∧
    (∀ kv ∈ kvs, ∃ i, hf.bucket kv.key ix.numBuckets = some i ∧ i < ix.numBuckets) ∧
    allSome ((List.range ix.numBuckets).map fun i => sealBucket hf (bucketKVs hf ix.numBuckets kvs i)) = some ix.buckets := by
  unfold buildA at h
  split at h
  · cases h
  · simp only at h
    split at h
    · cases h
    · rename_i hnone
      split at h
      · cases h
      · rename_i hrange
        split at h
        · cases h
        · rename_i bs hbs
          cases h
          refine ⟨rfl, rfl, rfl, ?_, hbs⟩
          intro kv hkv
          simp only [List.any_eq_true, not_exists, not_and] at hnone hrange
          have h1 := hnone kv hkv
          have h2 := hrange kv hkv
          cases hb : hf.bucket kv.key (numBucketsFor declared) with
          | none => simp [hb] at h1
          | some i =>
            refine ⟨i, rfl, ?_⟩
            simp only [hb, decide_eq_true_eq] at h2
            show i < numBucketsFor declared
            omega

theorem getD_toArray (l : List Ent) (j : Nat) : l.toArray.getD j default = l.getD j default := by
  simp [Array.getD, List.getD]
  split <;> rename_i h
  · simp [List.getElem?_eq_getElem h]
  · simp [List.getElem?_eq_none (by omega : l.length ≤ j)]

theorem sorted_array_hyp (l : List Ent) (hs : l.Pairwise (fun a b => a.1 < b.1)) :
    ∀ p q, p < q → q < l.toArray.size → (l.toArray.getD p default).1 < (l.toArray.getD q default).1 := by
  intro p q hpq hq
  have hq' : q < l.length := by simpa using hq
  have hp' : p < l.length := by omega
  rw [getD_toArray, getD_toArray]
  simp only [List.getD, List.getElem?_eq_getElem hq', List.getElem?_eq_getElem hp', Option.getD_some]
  exact (List.pairwise_iff_getElem.mp hs) p q hp' hq' hpq

/-- every key of a sealed bucket is found with its value -/
theorem sealBucket_lookup (hf : HF) (kvs : List KV) (b : BucketA) (h : sealBucket hf kvs = some b)
    (kv : KV) (hkv : kv ∈ kvs) :
    Eytz.search b.entries (hf.entry b.nonce kv.key) (b.entries.size + 1) 0 = some kv.val := by
  unfold sealBucket at h
  split at h
  · cases h
  · rename_i nonce sorted hm
    simp only [Option.some.injEq] at h; subst h
    obtain ⟨hperm, hstrict⟩ := mine_strict hf kvs nonce sorted hm
    have hmem : (hf.entry nonce kv.key, kv.val) ∈ sorted := by
      rw [hperm.mem_iff]
      unfold hashed
      exact List.mem_map.mpr ⟨kv, hkv, rfl⟩
    obtain ⟨j, hj, hjv⟩ := List.getElem_of_mem hmem
    have hsz : (Eytz.layout sorted.toArray).size = sorted.toArray.size := by
      have := Eytz.fill_spec sorted.toArray sorted.toArray.size 1 0 (Array.replicate sorted.toArray.size default) (by omega) (by simp)
      exact this.2.1
    have hc := Eytz.layout_search_complete sorted.toArray (sorted_array_hyp sorted hstrict) j (by simpa using hj)
    have hg : sorted.toArray.getD j default = (hf.entry nonce kv.key, kv.val) := by
      rw [getD_toArray]; simp [List.getD, List.getElem?_eq_getElem hj, hjv]
    rw [hg] at hc
    simp only [hsz]
    exact hc

/-- a hit in a sealed bucket is an inserted pair with the same 24-bit hash -/
theorem sealBucket_sound (hf : HF) (kvs : List KV) (b : BucketA) (h : sealBucket hf kvs = some b)
    (x : Nat) (v : Bytes) (hs : Eytz.search b.entries x (b.entries.size + 1) 0 = some v) :
    ∃ kv ∈ kvs, hf.entry b.nonce kv.key = x ∧ kv.val = v := by
  unfold sealBucket at h
  split at h
  · cases h
  · rename_i nonce sorted hm
    simp only [Option.some.injEq] at h; subst h
    obtain ⟨hperm, _⟩ := mine_strict hf kvs nonce sorted hm
    have hsz : (Eytz.layout sorted.toArray).size = sorted.toArray.size := by
      have := Eytz.fill_spec sorted.toArray sorted.toArray.size 1 0 (Array.replicate sorted.toArray.size default) (by omega) (by simp)
      exact this.2.1
    simp only [hsz] at hs
    obtain ⟨j, hj, hjv⟩ := Eytz.layout_search_sound sorted.toArray x v hs
    have hj' : j < sorted.length := by simpa using hj
    rw [getD_toArray] at hjv
    simp only [List.getD, List.getElem?_eq_getElem hj', Option.getD_some] at hjv
    have hmem : (x, v) ∈ sorted := hjv ▸ List.getElem_mem hj'
    rw [hperm.mem_iff] at hmem
    unfold hashed at hmem
    obtain ⟨kv, hkv, he⟩ := List.mem_map.mp hmem
    simp only [Prod.mk.injEq] at he
    exact ⟨kv, hkv, he.1, he.2⟩

theorem bucket_of_build (hf : HF) (vs declared : Nat) (m : List (Bytes × Bytes)) (kvs : List KV) (ix : IndexA)
    (h : buildA hf vs declared m kvs = .ok ix) (i : Nat) (hi : i < ix.numBuckets) :
    ∃ b, ix.buckets[i]? = some b ∧ sealBucket hf (bucketKVs hf ix.numBuckets kvs i) = some b := by
  obtain ⟨_, _, _, _, hall⟩ := buildA_ok hf vs declared m kvs ix h
  have hlen : i < ((List.range ix.numBuckets).map fun i => sealBucket hf (bucketKVs hf ix.numBuckets kvs i)).length := by
    simpa using hi
  obtain ⟨hr, e⟩ := allSome_get _ _ hall i hlen
  refine ⟨ix.buckets[i], by simp [List.getElem?_eq_getElem hr], ?_⟩
  simpa using e

end CI

namespace CI
open B

/-! ### insertion-order independence -/

theorem sorted_eq_of_perm (l l' : List Ent) (hp : l.Perm l')
    (hd : adjDup (l.mergeSort leEnt) = false) : l.mergeSort leEnt = l'.mergeSort leEnt ∧ adjDup (l'.mergeSort leEnt) = false := by
  have hp2 : (l.mergeSort leEnt).Perm (l'.mergeSort leEnt) :=
    (List.mergeSort_perm l leEnt).trans (hp.trans (List.mergeSort_perm l' leEnt).symm)
  have hs1 := strict_of_adjDup_false _ (sorted_pairwise l) hd
  have hd' : adjDup (l'.mergeSort leEnt) = false := by
    cases h : adjDup (l'.mergeSort leEnt) with
    | false => rfl
    | true =>
      have hn := (adjDup_iff _ (sorted_pairwise l')).mp h
      have : ((l.mergeSort leEnt).map (·.1)).Nodup := strict_nodup _ hs1
      exact absurd ((hp2.map _).nodup_iff.mp this) hn
  have hs2 := strict_of_adjDup_false _ (sorted_pairwise l') hd'
  refine ⟨?_, hd'⟩
  exact List.Perm.eq_of_pairwise (le := fun a b => a.1 < b.1) (fun a b _ _ h1 h2 => by omega) hs1 hs2 hp2

theorem adjDup_perm (l l' : List Ent) (hp : l.Perm l') :
    adjDup (l.mergeSort leEnt) = adjDup (l'.mergeSort leEnt) := by
  cases h : adjDup (l.mergeSort leEnt) with
  | false => exact (sorted_eq_of_perm l l' hp h).2.symm
  | true =>
    cases h' : adjDup (l'.mergeSort leEnt) with
    | true => rfl
    | false =>
      have := (sorted_eq_of_perm l' l hp.symm h').2
      rw [h] at this; cases this

theorem mineFrom_perm (hf : HF) (kvs kvs' : List KV) (hp : kvs.Perm kvs') :
    ∀ f nonce, mineFrom hf kvs f nonce = mineFrom hf kvs' f nonce := by
  intro f
  induction f with
  | zero => intro nonce; rfl
  | succ f ih =>
    intro nonce
    have hph : (hashed hf nonce kvs).Perm (hashed hf nonce kvs') := hp.map _
    simp only [mineFrom]
    rw [adjDup_perm _ _ hph]
    cases hd : adjDup ((hashed hf nonce kvs').mergeSort leEnt) with
    | true => simp only [if_true]; exact ih (nonce+1)
    | false =>
      have hd0 : adjDup ((hashed hf nonce kvs).mergeSort leEnt) = false := by rw [adjDup_perm _ _ hph]; exact hd
      simp only [Bool.false_eq_true, if_false]
      rw [(sorted_eq_of_perm _ _ hph hd0).1]

theorem sealBucket_perm (hf : HF) (kvs kvs' : List KV) (hp : kvs.Perm kvs') : sealBucket hf kvs = sealBucket hf kvs' := by
  unfold sealBucket mine
  rw [mineFrom_perm hf kvs kvs' hp]

theorem any_perm {α : Type} (p : α → Bool) (l l' : List α) (hp : l.Perm l') : l.any p = l'.any p := by
  rw [Bool.eq_iff_iff, List.any_eq_true, List.any_eq_true]
  constructor
  · rintro ⟨x, hx, h⟩; exact ⟨x, hp.mem_iff.mp hx, h⟩
  · rintro ⟨x, hx, h⟩; exact ⟨x, hp.mem_iff.mpr hx, h⟩

/-- the sealed index does not depend on the order of the inserts -/
theorem buildA_perm (hf : HF) (vs declared : Nat) (m : List (Bytes × Bytes)) (kvs kvs' : List KV) (hp : kvs.Perm kvs') :
    buildA hf vs declared m kvs = buildA hf vs declared m kvs' := by
  unfold buildA
  have h1 := any_perm (fun kv => (hf.bucket kv.key (numBucketsFor declared)).isNone) kvs kvs' hp
  have h3 : ((List.range (numBucketsFor declared)).map fun i => sealBucket hf (bucketKVs hf (numBucketsFor declared) kvs i))
       = ((List.range (numBucketsFor declared)).map fun i => sealBucket hf (bucketKVs hf (numBucketsFor declared) kvs' i)) := by
    apply List.map_congr_left
    intro i _
    exact sealBucket_perm hf _ _ (hp.filter _)
  simp only [h1, h3]
  rw [any_perm _ kvs kvs' hp]

end CI
