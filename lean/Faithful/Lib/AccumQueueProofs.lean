import Faithful.Lib.AccumQueue

/-! Invariant preservation, safety and progress of the hand-off model (`Faithful/Lib/AccumQueue.lean`).  `Inv` says: what
the callbacks have seen, then what the flusher and the channel hold, then what the reader has still to send, is the fixed
sequence `tot` (`view`); buffer ids and live arrays are distinct and below `nFb` / `bound`, so nobody writes what another
reads (`stable`, `notBad`); `wg` counts the groups under way. -/
namespace Accum

theorem resolve_fun (s : St) :
    resolve s = fun fb => ⟨(s.fbs fb).parent, (s.store (s.fbs fb).sl.arr).read (s.fbs fb).sl.len⟩ := rfl

section
variable {ig : List UInt8} {k : UInt8} {tot : List Group} {s : St}

/-! Step lemmas are about states with the program counter written out, `{ s with ppc := .add p f }`: then `stepP`,
    `pending`, `bound`, … compute, the conjuncts of `Inv` a step leaves alone hold by unfolding, and `{ inv with … }`
    lists the others.  Any `s` is `{ s with ppc := s.ppc }`; for the flusher the channel is written out too, since its
    receive step matches on it: -/
theorem St.ppcCases {motive : St → Prop} (mk : ∀ (pc : PPc) (s : St), motive { s with ppc := pc }) (s : St) :
    motive s :=
  mk s.ppc s

theorem St.cpcCases {motive : St → Prop} (mk : ∀ (pc : CPc) (q : List Nat) (s : St), motive { s with queue := q, cpc := pc })
    (s : St) : motive s :=
  mk s.cpc s.queue s

theorem inv_init (c : Car) (ig : List UInt8) (k : UInt8) (skip npool : Nat) :
    Inv ig k (sends c ig k skip) (init c skip npool) where
  view := rfl
  ids := List.nodup_range
  idsLt := fun _ h => List.mem_range.mp h
  arrs := List.nodup_nil
  arrsLt := nofun
  curLt := nofun
  enqSl := nofun
  curLen := nofun
  stable := rfl
  wgEq := rfl
  closedDone := ⟨nofun, nofun⟩
  wgZero := nofun
  exitedClosed := nofun
  notBad := rfl
  sentLt := nofun

theorem view_congr {seen l l' P P' tot : List Group} (h : seen ++ (l ++ P) = tot) (hl : l' = l) (hP : P' = P) :
    seen ++ (l' ++ P') = tot := by
  rw [hl, hP, h]

theorem map_resolve_congr (s s' : St) (l : List Nat) (hf : ∀ fb ∈ l, s'.fbs fb = s.fbs fb)
    (hs : ∀ fb ∈ l, readSl s' (s.fbs fb).sl = readSl s (s.fbs fb).sl) :
    l.map (resolve s') = l.map (resolve s) :=
  List.map_congr_left fun fb hfb => by simp only [resolve, hf fb hfb, hs fb hfb]

theorem liveArrs_congr (s s' : St) (hh : s'.handed = s.handed)
    (hi : callIds s'.cpc ++ s'.queue = callIds s.cpc ++ s.queue)
    (hf : ∀ fb ∈ callIds s.cpc ++ s.queue, s'.fbs fb = s.fbs fb) : liveArrs s' = liveArrs s := by
  unfold liveArrs
  rw [hh, hi]
  exact congrArg _ (List.map_congr_left fun fb hfb => by rw [hf fb hfb])

theorem readSl_upd (s s' : St) {a : Nat} {v : Arr} (hs : s'.store = upd s.store a v) {sl : Slice} (h : sl.arr ≠ a) :
    readSl s' sl = readSl s sl := by
  rw [readSl, hs, upd_other _ _ _ _ h, readSl]

theorem fresh_resolve (s s' : St) {a : Nat} {v : Arr} (hs : s'.store = upd s.store a v) (hf : s'.fbs = s.fbs)
    (hl : ∀ b ∈ liveArrs s, b < a) :
    (callIds s.cpc ++ s.queue).map (resolve s') = (callIds s.cpc ++ s.queue).map (resolve s) :=
  map_resolve_congr s s' _ (fun _ _ => by rw [hf]) fun _ h => readSl_upd s s' hs
    (Nat.ne_of_lt (hl _ (List.mem_append_right _ (List.mem_map_of_mem (f := fun fb => (s.fbs fb).sl.arr) h))))

theorem fresh_reread (s s' : St) {a : Nat} {v : Arr} (hs : s'.store = upd s.store a v) (hh : s'.handed = s.handed)
    (hl : ∀ b ∈ liveArrs s, b < a) : s'.reread = s.reread := by
  unfold St.reread
  rw [hh]
  exact List.map_congr_left fun h hm => by
    rw [readSl_upd s s' hs (Nat.ne_of_lt (hl _ (List.mem_append_left _ (List.mem_map_of_mem hm))))]

/-! buffer ids and array numbers: "distinct and below a bound" survives a permutation and consing the bound -/

theorem perm_mid (l₁ l₂ l₃ : List Nat) (x : Nat) : (l₁ ++ (l₂ ++ x :: l₃)).Perm (x :: (l₁ ++ (l₂ ++ l₃))) := by
  rw [← List.append_assoc, ← List.append_assoc]
  exact List.perm_middle

theorem distinct_perm {l l' : List Nat} {n : Nat} (p : l.Perm l') (nd : l.Nodup) (lt : ∀ x ∈ l, x < n) :
    l'.Nodup ∧ ∀ x ∈ l', x < n :=
  ⟨nd.perm p, fun x hx => lt x (p.mem_iff.mpr hx)⟩

theorem nodup_cons_bound {l : List Nat} {n : Nat} (nd : l.Nodup) (lt : ∀ x ∈ l, x < n) : (n :: l).Nodup :=
  List.nodup_cons.mpr ⟨fun h => Nat.lt_irrefl _ (lt n h), nd⟩

theorem lt_cons {l : List Nat} {n m : Nat} (lt : ∀ x ∈ l, x < n) (hm : n < m) : ∀ x ∈ n :: l, x < m :=
  fun x hx => (List.mem_cons.mp hx).elim (· ▸ hm) fun h => Nat.lt_trans (lt x h) hm

theorem ne_of_nodup_mid {a q p : List Nat} {x y : Nat} (h : (a ++ (q ++ x :: p)).Nodup) (hy : y ∈ a ∨ y ∈ q) :
    y ≠ x := by
  rintro rfl
  have := (List.nodup_cons.mp ((perm_mid a q p y).nodup_iff.mp h)).1
  exact this (hy.elim (List.mem_append_left _) fun h => List.mem_append_right _ (List.mem_append_left _ h))

theorem mem_held {c : CPc} {q : List Nat} {x : Nat} (h : x ∈ callIds c ++ q) : x ∈ heldC c ∨ x ∈ q :=
  (List.mem_append.mp h).imp_left fun h => by cases c <;> first | exact h | nomatch h

theorem closedDone_of {c : Bool} {pc pc' : PPc} (h : c = true ↔ pc = .done) (hpc : pc ≠ .done) (hpc' : pc' ≠ .done) :
    c = true ↔ pc' = .done :=
  ⟨fun hc => absurd (h.mp hc) hpc, fun hd => absurd hd hpc'⟩

theorem inv_alloc (cfg : Cfg) (inv : Inv ig k tot { s with ppc := .alloc }) :
    Inv ig k tot { s with store := upd s.store s.nArr ⟨[], cfg.cap0⟩, cur := ⟨s.nArr, 0⟩, nArr := s.nArr + 1,
                          ppc := .reading } :=
  { inv with
    view := view_congr inv.view (fresh_resolve s _ rfl rfl inv.arrsLt) rfl
    curLt := fun _ => Nat.lt_succ_self _
    enqSl := nofun
    curLen := fun _ => congrArg (fun a : Arr => a.rc.length) (upd_same ..)
    stable := Eq.trans (fresh_reread s _ rfl rfl inv.arrsLt) inv.stable
    closedDone := closedDone_of inv.closedDone nofun nofun
    wgZero := nofun }

theorem inv_add {p f} (inv : Inv ig k tot { s with ppc := .add p f }) :
    Inv ig k tot { s with wg := s.wg + 1, ppc := .get p f } :=
  { inv with
    enqSl := nofun
    curLen := nofun
    wgEq := congrArg (· + 1) inv.wgEq
    closedDone := closedDone_of inv.closedDone nofun nofun
    wgZero := nofun }

theorem inv_get_core {p f} (inv : Inv ig k tot { s with ppc := .get p f }) (fb n' : Nat) (pool' : List Nat)
    (hids : (heldC s.cpc ++ (s.queue ++ fb :: pool')).Nodup)
    (hlt : ∀ x ∈ heldC s.cpc ++ (s.queue ++ fb :: pool'), x < n') :
    Inv ig k tot { s with pool := pool', nFb := n', fbs := upd s.fbs fb ⟨p, s.cur⟩, ppc := .enq fb f } :=
  have hfbs : ∀ x ∈ callIds s.cpc ++ s.queue, upd s.fbs fb ⟨p, s.cur⟩ x = s.fbs x :=
    fun _ hx => upd_other _ _ _ _ (ne_of_nodup_mid hids (mem_held hx))
  have hla := liveArrs_congr s { s with fbs := upd s.fbs fb ⟨p, s.cur⟩ } rfl rfl hfbs
  { inv with
    view := view_congr inv.view (map_resolve_congr s _ _ hfbs fun _ _ => rfl)
      (congrArg (· :: _) (by simp only [resolve, upd_same]; rfl))
    ids := hids
    idsLt := hlt
    arrs := hla ▸ inv.arrs
    arrsLt := hla ▸ inv.arrsLt
    enqSl := fun _ _ h => by cases h; exact congrArg FB.sl (upd_same ..)
    curLen := nofun
    closedDone := closedDone_of inv.closedDone nofun nofun
    wgZero := nofun }

theorem inv_get (cfg : Cfg) {p f} (inv : Inv ig k tot { s with ppc := .get p f }) (n : Nat) :
    Inv ig k tot (stepP cfg ig k n { s with ppc := .get p f }) := by
  show Inv ig k tot (match s.pool[n]? with | some fb => _ | none => _)
  split
  next fb hfb =>
    -- from the pool: the same ids, permuted
    have ⟨nd, lt⟩ := distinct_perm (((List.perm_cons_erase (List.mem_of_getElem? hfb)).append_left _).append_left _)
      inv.ids inv.idsLt
    exact inv_get_core inv fb _ _ nd lt
  next =>
    -- `New`: the next id is fresh
    have ⟨nd, lt⟩ := distinct_perm (perm_mid ..).symm (nodup_cons_bound inv.ids inv.idsLt)
      (lt_cons inv.idsLt (Nat.lt_succ_self _))
    exact inv_get_core inv _ _ _ nd lt

theorem view_snoc {seen : List Group} {g : Nat → Group} {a q : List Nat} {x : Nat} {P tot : List Group}
    (h : seen ++ ((a ++ q).map g ++ (g x :: P)) = tot) : seen ++ ((a ++ (q ++ [x])).map g ++ P) = tot := by
  simpa only [List.map_append, List.append_assoc, List.map_cons, List.map_nil, List.cons_append, List.nil_append] using h

theorem inv_enq {fb f} (inv : Inv ig k tot { s with ppc := .enq fb f }) :
    Inv ig k tot { s with queue := s.queue ++ [fb], sentArrs := (s.fbs fb).sl.arr :: s.sentArrs,
                          ppc := if f then .wait else .alloc } := by
  have hsl : (s.fbs fb).sl.arr = s.cur.arr := congrArg Slice.arr (inv.enqSl fb f rfl)
  have hcur : s.cur.arr < s.nArr := inv.curLt rfl
  -- the array sent was the bound of the live and sent ones; the new bound is `nArr`
  have arrs : (liveArrs s).Nodup := inv.arrs
  have arrsLt : ∀ a ∈ liveArrs s, a < s.cur.arr := inv.arrsLt
  have sentLt : ∀ a ∈ s.sentArrs, a < s.cur.arr := inv.sentLt
  have hla : liveArrs { s with queue := s.queue ++ [fb] } = liveArrs s ++ [s.cur.arr] := by
    simp only [liveArrs, ← hsl, List.map_append, List.append_assoc, List.map_cons, List.map_nil]
  have ⟨nd, lt⟩ := distinct_perm (List.perm_append_singleton ..).symm (nodup_cons_bound arrs arrsLt)
    (lt_cons arrsLt hcur)
  rw [← hla] at nd lt
  have slt : ∀ a ∈ (s.fbs fb).sl.arr :: s.sentArrs, a < s.nArr := hsl ▸ lt_cons sentLt hcur
  have hids : (heldC s.cpc ++ (s.queue ++ ([fb] ++ s.pool))).Nodup := inv.ids
  have hidsLt : ∀ x ∈ heldC s.cpc ++ (s.queue ++ ([fb] ++ s.pool)), x < s.nFb := inv.idsLt
  have hwg : s.wg = s.queue.length + wgC s.cpc + 1 := inv.wgEq
  rw [← List.append_assoc s.queue] at hids hidsLt
  cases f <;> exact
    { inv with
      view := view_snoc inv.view
      ids := hids
      idsLt := hidsLt
      arrs := nd
      arrsLt := lt
      curLt := nofun
      enqSl := nofun
      curLen := nofun
      wgEq := by rw [hwg, List.length_append]; exact Nat.add_right_comm ..
      closedDone := closedDone_of inv.closedDone nofun nofun
      wgZero := nofun
      sentLt := slt }

theorem inv_wait (inv : Inv ig k tot { s with ppc := .wait }) (hw : s.wg = 0) :
    Inv ig k tot { s with ppc := .close } :=
  { inv with
    enqSl := nofun
    curLen := nofun
    closedDone := closedDone_of inv.closedDone nofun nofun
    wgZero := fun _ => hw }

theorem inv_close (inv : Inv ig k tot { s with ppc := .close }) :
    Inv ig k tot { s with closed := true, ppc := .done } :=
  { inv with
    enqSl := nofun
    curLen := nofun
    closedDone := ⟨fun _ => rfl, fun _ => rfl⟩
    wgZero := fun _ => inv.wgZero (.inl rfl)
    exitedClosed := fun _ => rfl }

theorem inv_read_on {rest skip r off' n} (inv : Inv ig k tot { s with rest := rest, skip := skip, ppc := .reading })
    (hv : go ig k r off' n (readSl s s.cur) = go ig k rest s.off skip (readSl s s.cur)) :
    Inv ig k tot { s with rest := r, off := off', skip := n, ppc := .reading } :=
  { inv with view := view_congr inv.view rfl hv }

theorem inv_read_send {rest skip r off' n p f}
    (inv : Inv ig k tot { s with rest := rest, skip := skip, ppc := .reading })
    (hv : ⟨p, readSl s s.cur⟩ :: (if f then [] else go ig k r off' n []) =
      go ig k rest s.off skip (readSl s s.cur)) :
    Inv ig k tot { s with rest := r, off := off', skip := n, ppc := .add p f } :=
  { inv with
    view := view_congr inv.view rfl hv
    enqSl := nofun
    curLen := nofun
    closedDone := closedDone_of inv.closedDone nofun nofun
    wgZero := nofun }

/-- `append` writes cell `cur.len` of `a`: the current array (`A` its content), or a fresh copy `A` of it -/
theorem inv_append_at {rest skip r off'} (inv : Inv ig k tot { s with rest := rest, skip := skip, ppc := .reading })
    (o : Obj) (hv : go ig k r off' skip (readSl s s.cur ++ [o]) = go ig k rest s.off skip (readSl s s.cur))
    (a n' : Nat) (A : Arr) (b' : Bool) (hA : A.rc.length = s.cur.len) (hr : A.read s.cur.len = readSl s s.cur)
    (ha : s.cur.arr ≤ a) (han : a < n') (hb : b' = false) :
    Inv ig k tot { s with store := upd s.store a (A.write s.cur.len o), cur := ⟨a, s.cur.len + 1⟩, nArr := n',
                          bad := b', rest := r, off := off', skip := skip, ppc := .reading } :=
  have hl : ∀ b ∈ liveArrs s, b < a := fun b hb => Nat.lt_of_lt_of_le (inv.arrsLt b hb) ha
  have hread : (upd s.store a (A.write s.cur.len o) a).read (s.cur.len + 1) = readSl s s.cur ++ [o] := by
    rw [upd_same, ← hr]
    exact Arr.read_write_end A hA o
  { inv with
    view := view_congr inv.view (fresh_resolve s _ rfl rfl hl) (Eq.trans (congrArg (go ig k r off' skip) hread) hv)
    arrsLt := hl
    curLt := fun _ => han
    enqSl := nofun
    curLen := fun _ => (congrArg (fun a : Arr => a.rc.length) (upd_same ..)).trans (Arr.write_end_length A hA o)
    stable := Eq.trans (fresh_reread s _ rfl rfl hl) inv.stable
    notBad := hb
    sentLt := fun b hb => Nat.lt_of_lt_of_le (inv.sentLt b hb) ha }

theorem inv_append (cfg : Cfg) {rest skip r off'}
    (inv : Inv ig k tot { s with rest := rest, skip := skip, ppc := .reading }) (o : Obj)
    (hv : go ig k r off' skip (readSl s s.cur ++ [o]) = go ig k rest s.off skip (readSl s s.cur)) :
    Inv ig k tot (appendObj cfg { s with rest := r, off := off', skip := skip, ppc := .reading } o) := by
  have hlen : (s.store s.cur.arr).rc.length = s.cur.len := inv.curLen rfl
  show Inv ig k tot (if s.cur.len < (s.store s.cur.arr).cap then _ else _)
  split
  · -- in place: the current array has not been sent (`sentLt`), so `bad` stays false
    have hns : s.sentArrs.contains s.cur.arr = false :=
      Bool.eq_false_iff.mpr fun h => Nat.lt_irrefl _ (inv.sentLt _ (List.contains_iff_mem.mp h))
    exact inv_append_at inv o hv s.cur.arr s.nArr _ _ hlen rfl (Nat.le_refl _) (inv.curLt rfl)
      (by rw [hns]; exact Bool.or_false _ ▸ inv.notBad)
  · have hc := Arr.read_length (s.store s.cur.arr) (Nat.le_of_eq hlen.symm)
    exact inv_append_at inv o hv s.nArr (s.nArr + 1) ⟨_, _⟩ _ ((List.length_reverse ..).trans hc)
      ((congrArg (List.take _) (List.reverse_reverse _)).trans (List.take_of_length_le (Nat.le_of_eq hc)))
      (Nat.le_of_lt (inv.curLt rfl)) (Nat.lt_succ_self _) inv.notBad

theorem inv_read (cfg : Cfg) (rest : List Sec) (skip : Nat)
    (inv : Inv ig k tot { s with rest := rest, skip := skip, ppc := .reading }) :
    Inv ig k tot (pRead cfg ig k { s with rest := rest, skip := skip, ppc := .reading }) := by
  match rest, skip with
  | [], _ => exact inv_read_send (s := s) (f := true) inv rfl
  | sec :: r, n + 1 => exact inv_read_on (s := s) inv rfl
  | sec :: r, 0 =>
    show Inv ig k tot (ite (kindOf sec.data = k) _ _)
    split
    next hk => exact inv_read_send (s := s) (f := false) inv (if_pos hk).symm
    next hk =>
      split
      next hi => exact inv_read_on (s := s) inv ((if_neg hk).trans (if_pos hi)).symm
      next hi => exact inv_append (s := s) cfg inv _ ((if_neg hk).trans (if_neg hi)).symm

theorem inv_gc (inv : Inv ig k tot s) : Inv ig k tot { s with pool := [] } :=
  have sub : (heldC s.cpc ++ (s.queue ++ (heldP s.ppc ++ []))).Sublist (heldC s.cpc ++ (s.queue ++ (heldP s.ppc ++ s.pool))) :=
    ((List.nil_sublist _).append_left _ |>.append_left _ |>.append_left _)
  { inv with
    ids := inv.ids.sublist sub
    idsLt := fun x hx => inv.idsLt x (sub.subset hx) }

theorem inv_stepP (cfg : Cfg) (n : Nat) (inv : Inv ig k tot s) : Inv ig k tot (stepP cfg ig k n s) := by
  cases s using St.ppcCases with | mk pc s =>
  cases pc with
  | alloc => exact inv_alloc cfg inv
  | reading => exact inv_read cfg s.rest s.skip inv
  | add p f => exact inv_add inv
  | get p f => exact inv_get cfg inv n
  | enq fb f =>
    show Inv ig k tot (if s.queue.length < cfg.qcap then _ else _)
    split
    · exact inv_enq inv
    · exact inv
  | wait =>
    show Inv ig k tot (if s.wg = 0 then _ else _)
    split
    next hw => exact inv_wait inv hw
    next => exact inv
  | close => exact inv_close inv
  | done => exact inv

theorem pending_congr (s s' : St) (hpc : s'.ppc = s.ppc) (hrest : s'.rest = s.rest) (hoff : s'.off = s.off)
    (hskip : s'.skip = s.skip) (hcur : s'.cur = s.cur)
    (hread : curLive s.ppc = true → readSl s' s.cur = readSl s s.cur)
    (hfb : ∀ fb f, s.ppc = .enq fb f → s'.fbs fb = s.fbs fb ∧ (s.fbs fb).sl = s.cur) :
    pending ig k s' = pending ig k s := by
  unfold pending restGroups
  rw [hpc, hrest, hoff, hskip, hcur]
  cases hp : s.ppc with
  | enq fb f =>
    obtain ⟨h1, h2⟩ := hfb fb f hp
    simp only [resolve, h1, h2, hread (hp ▸ rfl)]
  | alloc | wait | close | done => rfl
  | reading | add p f | get p f => simp only [hread (hp ▸ rfl)]

theorem inv_recv (app : Bool) (q : List Nat) (inv : Inv ig k tot { s with queue := q, cpc := .idle }) :
    Inv ig k tot (stepC app { s with queue := q, cpc := .idle }) := by
  match q with
  | fb :: q => exact { inv with exitedClosed := nofun }
  | [] =>
    show Inv ig k tot (if s.closed = true then _ else _)
    split
    next hcl => exact { inv with exitedClosed := fun _ => hcl }
    next => exact inv

theorem cbStore_cases (app : Bool) (s : St) (f : FB) :
    cbStore app s f = s.store ∨
      ∃ p, cbStore app s f = upd s.store f.sl.arr ((s.store f.sl.arr).write f.sl.len p) := by
  unfold cbStore cbWrite
  cases app with
  | false => exact .inl rfl
  | true =>
    cases f.parent with
    | none => exact .inl rfl
    | some p =>
      dsimp only
      by_cases hc : f.sl.len < (s.store f.sl.arr).cap
      · rw [if_pos hc]; exact .inr ⟨p, rfl⟩
      · rw [if_neg hc]; exact .inl rfl

theorem cbStore_other (app : Bool) (s : St) (f : FB) {a : Nat} (h : a ≠ f.sl.arr) : cbStore app s f a = s.store a := by
  rcases cbStore_cases app s f with e | ⟨p, e⟩ <;> rw [e]
  exact upd_other _ _ _ _ h

theorem readSl_cb (app : Bool) (s s' : St) (f : FB) (hs : s'.store = cbStore app s f) (sl : Slice)
    (h : sl.arr ≠ f.sl.arr ∨ sl = f.sl) : readSl s' sl = readSl s sl := by
  rw [readSl, hs, readSl]
  rcases h with h | rfl
  · rw [cbStore_other app s f h]
  · rcases cbStore_cases app s f with e | ⟨p, e⟩ <;> rw [e]
    rw [upd_same]
    exact Arr.read_write_le _ _ _ _ (Nat.le_refl _)

theorem view_shift {seen : List Group} {g : Nat → Group} {x : Nat} {q : List Nat} {P tot : List Group}
    (h : seen ++ ((x :: q).map g ++ P) = tot) : (seen ++ [g x]) ++ (q.map g ++ P) = tot := by
  simpa only [List.map_cons, List.append_assoc, List.cons_append, List.nil_append] using h

theorem inv_call (app : Bool) {fb} (inv : Inv ig k tot { s with cpc := .call fb }) :
    Inv ig k tot { s with store := cbStore app s (s.fbs fb), seen := s.seen ++ [resolve s fb],
                          handed := s.handed ++ [((s.fbs fb).parent, (s.fbs fb).sl)], cpc := .fin fb } := by
  -- the array handed over is distinct from every other live one, and below the reader's
  have arrs : (s.handed.map (·.2.arr) ++ (s.fbs fb).sl.arr :: s.queue.map fun x => (s.fbs x).sl.arr).Nodup := inv.arrs
  have arrsLt : ∀ a ∈ s.handed.map (·.2.arr) ++ (s.fbs fb).sl.arr :: s.queue.map fun x => (s.fbs x).sl.arr,
      a < bound s := inv.arrsLt
  have hne := (List.nodup_cons.mp (List.perm_middle.nodup_iff.mp arrs)).1
  have hnh : ∀ h ∈ s.handed, h.2.arr ≠ (s.fbs fb).sl.arr :=
    fun h hm e => hne (List.mem_append_left _ (e ▸ List.mem_map_of_mem hm))
  have hnq : ∀ x ∈ s.queue, (s.fbs x).sl.arr ≠ (s.fbs fb).sl.arr :=
    fun x hx e => hne (List.mem_append_right _ (e ▸ List.mem_map_of_mem (f := fun x => (s.fbs x).sl.arr) hx))
  have hcur : curLive s.ppc = true → s.cur.arr ≠ (s.fbs fb).sl.arr := fun hl e => by
    have := arrsLt _ (List.mem_append_right _ (List.mem_cons_self ..))
    rw [bound, if_pos hl, e] at this
    exact Nat.lt_irrefl _ this
  have hrd := readSl_cb app s { s with store := cbStore app s (s.fbs fb) } (s.fbs fb) rfl
  have hla : liveArrs { s with handed := s.handed ++ [((s.fbs fb).parent, (s.fbs fb).sl)], cpc := .fin fb } =
      liveArrs { s with cpc := .call fb } := by
    simp only [liveArrs, callIds, List.map_append, List.map_cons, List.map_nil, List.append_assoc, List.cons_append,
      List.nil_append]
  have arrs' := inv.arrs
  have arrsLt' := inv.arrsLt
  rw [← hla] at arrs' arrsLt'
  exact
    { inv with
      view := view_congr (view_shift inv.view)
        (map_resolve_congr s _ s.queue (fun _ _ => rfl) fun _ hx => hrd _ (.inl (hnq _ hx)))
        (pending_congr s _ rfl rfl rfl rfl rfl (fun hl => hrd _ (.inl (hcur hl))) fun x f h => ⟨rfl, inv.enqSl x f h⟩)
      arrs := arrs'
      arrsLt := arrsLt'
      curLen := fun h => (congrArg (fun a : Arr => a.rc.length) (cbStore_other app s _ (hcur (congrArg curLive h)))).trans
        (inv.curLen h)
      stable := by
        show List.map _ (s.handed ++ [_]) = _
        rw [List.map_append, ← inv.stable]
        exact congr (congrArg _ (List.map_congr_left fun h hm => congrArg _ (hrd _ (.inl (hnh h hm)))))
          (congrArg (fun l => [Group.mk _ l]) (hrd _ (.inr rfl)))
      exitedClosed := nofun }

theorem inv_fin {fb} (inv : Inv ig k tot { s with cpc := .fin fb }) :
    Inv ig k tot { s with wg := s.wg - 1, cpc := .put fb } :=
  have hw : s.wg = s.queue.length + 1 + wgP s.ppc := inv.wgEq
  { inv with
    wgEq := show s.wg - 1 = s.queue.length + 0 + wgP s.ppc by omega
    wgZero := fun h => by rw [inv.wgZero h]
    exitedClosed := nofun }

/-- what `putFlushBuffer` leaves in the buffer does not matter: nothing refers to a pooled buffer -/
theorem inv_put {fb} {v : FB} (inv : Inv ig k tot { s with cpc := .put fb }) :
    Inv ig k tot { s with fbs := upd s.fbs fb v, pool := fb :: s.pool, cpc := .idle } :=
  have ids : (fb :: (s.queue ++ (heldP s.ppc ++ s.pool))).Nodup := inv.ids
  have hne : ∀ x, x ∈ s.queue ∨ x ∈ heldP s.ppc → x ≠ fb := fun _ hx e => (List.nodup_cons.mp ids).1
    (e ▸ hx.elim (List.mem_append_left _) fun h => List.mem_append_right _ (List.mem_append_left _ h))
  have hq : ∀ x ∈ s.queue, upd s.fbs fb v x = s.fbs x := fun x hx => upd_other _ _ _ _ (hne x (.inl hx))
  have henq : ∀ x f, s.ppc = .enq x f → upd s.fbs fb v x = s.fbs x ∧ (s.fbs x).sl = s.cur :=
    fun x f h => ⟨upd_other _ _ _ _ (hne x (.inr (h ▸ List.mem_singleton_self x))), inv.enqSl x f h⟩
  have hla := liveArrs_congr { s with cpc := .put fb } { s with fbs := upd s.fbs fb v, cpc := .idle } rfl rfl hq
  have ⟨nd, lt⟩ := distinct_perm (perm_mid ..).symm ids inv.idsLt
  { inv with
    view := view_congr inv.view (map_resolve_congr s _ s.queue hq fun _ _ => rfl)
      (pending_congr s _ rfl rfl rfl rfl rfl (fun _ => rfl) henq)
    ids := nd
    idsLt := lt
    arrs := hla ▸ inv.arrs
    arrsLt := hla ▸ inv.arrsLt
    enqSl := fun x f h => (congrArg FB.sl (henq x f h).1).trans (henq x f h).2
    exitedClosed := nofun }

theorem inv_stepC (app : Bool) (inv : Inv ig k tot s) : Inv ig k tot (stepC app s) := by
  cases s using St.cpcCases with | mk pc q s =>
  cases pc with
  | idle => exact inv_recv app q inv
  | call fb => rw [stepC_call _ _ fb rfl]; exact inv_call (s := { s with queue := q }) app inv
  | fin fb => exact inv_fin (s := { s with queue := q }) inv
  | put fb => exact inv_put (s := { s with queue := q }) inv
  | exited => exact inv

theorem inv_step (cfg : Cfg) (e : Ev) (inv : Inv ig k tot s) : Inv ig k tot (step cfg ig k s e) := by
  cases e with
  | p n => exact inv_stepP cfg n inv
  | c app => exact inv_stepC app inv
  | gc => exact inv_gc inv

theorem inv_exec (cfg : Cfg) (σ : List Ev) (inv : Inv ig k tot s) : Inv ig k tot (exec cfg ig k s σ) := by
  induction σ generalizing s with
  | nil => exact inv
  | cons e σ ih => exact ih (inv_step cfg e inv)

theorem seen_all_of_finished (inv : Inv ig k tot s) (h : s.finished = true) : s.seen = tot := by
  simp only [St.finished, Bool.and_eq_true, beq_iff_eq] at h
  have hw := inv.wgEq
  rw [inv.wgZero (.inr h.1)] at hw
  have hq : s.queue = [] := List.eq_nil_of_length_eq_zero (by omega)
  have hv := inv.view
  simp only [pending, callIds, h.1, h.2, hq, List.append_nil, List.map_nil] at hv
  exact hv

end

def enabledP (cfg : Cfg) (s : St) : Bool :=
  match s.ppc with
  | .enq _ _ => decide (s.queue.length < cfg.qcap)
  | .wait => decide (s.wg = 0)
  | .done => false
  | _ => true

def enabledC (s : St) : Bool :=
  match s.cpc with
  | .idle => !s.queue.isEmpty || s.closed
  | .exited => false
  | _ => true

/-! The measure.  A section of the flush kind costs the reader five steps (`reading → add → get → enq → alloc → reading`),
    any other section one: `prodM` is 5 per section left plus the steps left in the current cycle — `alloc` 7, `reading` 6,
    and for `add, get, enq` the 5 of the cycle that follows the send plus 5, 4, 3; the final send counts down 5 … 0.
    `toSend` bounds the groups not yet on the channel (every section left may close one, and the final one).  Each group
    on or before the channel costs the flusher four steps (`idle → call → fin → put → idle`), and `consPc` is what is left
    of its current cycle (`idle` 1: the exit). -/
def prodM (s : St) : Nat :=
  match s.ppc with
  | .alloc => 5 * s.rest.length + 7
  | .reading => 5 * s.rest.length + 6
  | .add _ f => if f then 5 else 5 * s.rest.length + 10
  | .get _ f => if f then 4 else 5 * s.rest.length + 9
  | .enq _ f => if f then 3 else 5 * s.rest.length + 8
  | .wait => 2
  | .close => 1
  | .done => 0

def toSend (s : St) : Nat :=
  match s.ppc with
  | .alloc | .reading => s.rest.length + 1
  | .add _ f | .get _ f | .enq _ f => if f then 1 else s.rest.length + 2
  | _ => 0

def consPc : CPc → Nat
  | .idle => 1
  | .call _ => 4
  | .fin _ => 3
  | .put _ => 2
  | .exited => 0

/-- an upper bound on the number of effective steps still to be taken -/
def mu (s : St) : Nat := prodM s + (4 * (toSend s + s.queue.length) + consPc s.cpc)

section
variable {cfg : Cfg} {ig : List UInt8} {k : UInt8} {tot : List Group} {s : St}

theorem mu_appendObj (cfg : Cfg) (s : St) (o : Obj) : mu (appendObj cfg s o) = mu s := by
  show mu (if _ then _ else _) = _
  split <;> rfl

theorem stepP_blocked (n : Nat) (h : enabledP cfg s = false) : stepP cfg ig k n s = s := by
  cases s using St.ppcCases with | mk pc s =>
  cases pc with
  | enq fb f => exact if_neg (of_decide_eq_false h)
  | wait => exact if_neg (of_decide_eq_false h)
  | done => rfl
  | _ => nomatch h

/-! the steps that do more to `mu` than take one off `prodM` or `consPc` (`r = rest.length`, `q = queue.length`); stated
    about numbers because `exact` unfolds `mu` of a written-out state by itself, which `omega` at the use site would not -/

theorem mu_pass (r q c : Nat) :
    5 * r + 6 + (4 * (r + 1 + q) + c) < 5 * (r + 1) + 6 + (4 * (r + 1 + 1 + q) + c) := by omega

theorem mu_parent (r q c : Nat) :
    5 * r + 10 + (4 * (r + 2 + q) + c) < 5 * (r + 1) + 6 + (4 * (r + 1 + 1 + q) + c) := by omega

theorem mu_enq (p t q c : Nat) : p + (4 * (t + (q + 1)) + c) < p + 1 + (4 * (t + 1 + q) + c) := by omega

theorem mu_recv (p t q : Nat) : p + (4 * (t + q) + 4) < p + (4 * (t + (q + 1)) + 1) := by omega

theorem pRead_mu (rest : List Sec) (skip : Nat) :
    mu (pRead cfg ig k { s with rest := rest, skip := skip, ppc := .reading }) <
      mu { s with rest := rest, skip := skip, ppc := .reading } := by
  match rest, skip with
  | [], _ => exact Nat.add_lt_add_right (Nat.lt_succ_self 5) _
  | sec :: r, n + 1 => exact mu_pass r.length s.queue.length (consPc s.cpc)
  | sec :: r, 0 =>
    show mu (ite (kindOf sec.data = k) _ _) < _
    split
    · exact mu_parent r.length s.queue.length (consPc s.cpc)
    · split
      · exact mu_pass r.length s.queue.length (consPc s.cpc)
      · rw [mu_appendObj]; exact mu_pass r.length s.queue.length (consPc s.cpc)

theorem stepP_mu (n : Nat) (h : enabledP cfg s = true) : mu (stepP cfg ig k n s) < mu s := by
  cases s using St.ppcCases with | mk pc s =>
  cases pc with
  | reading => exact pRead_mu s.rest s.skip
  | get p f =>
    show mu (match s.pool[n]? with | some fb => _ | none => _) < _
    split <;> cases f <;> exact Nat.add_lt_add_right (Nat.lt_succ_self _) _
  | enq fb f =>
    show mu (if s.queue.length < cfg.qcap then _ else _) < _
    rw [if_pos (of_decide_eq_true h), mu, List.length_append]
    cases f <;> exact mu_enq ..
  | wait =>
    show mu (if s.wg = 0 then _ else _) < _
    rw [if_pos (of_decide_eq_true h)]
    exact Nat.add_lt_add_right (Nat.lt_succ_self 1) _
  | add p f => cases f <;> exact Nat.add_lt_add_right (Nat.lt_succ_self _) _
  | alloc | close => exact Nat.add_lt_add_right (Nat.lt_succ_self _) _
  | done => nomatch h

theorem stepC_blocked (app : Bool) (h : enabledC s = false) : stepC app s = s := by
  cases s using St.cpcCases with | mk pc q s =>
  match pc, q with
  | .idle, [] => exact if_neg (Bool.eq_false_iff.mp h)
  | .exited, _ => rfl

theorem stepC_mu (app : Bool) (h : enabledC s = true) : mu (stepC app s) < mu s := by
  cases s using St.cpcCases with | mk pc q s =>
  match pc, q with
  | .idle, fb :: q => exact mu_recv ..
  | .idle, [] =>
    show mu (if s.closed = true then _ else _) < _
    rw [if_pos (show s.closed = true from h)]
    exact Nat.lt_succ_self _
  | .call fb, _ => rw [stepC_call _ _ fb rfl]; exact Nat.lt_succ_self _
  | .fin fb, _ | .put fb, _ => exact Nat.lt_succ_self _

theorem step_mu_le (e : Ev) : mu (step cfg ig k s e) ≤ mu s := by
  cases e with
  | p n =>
    cases h : enabledP cfg s with
    | true => exact Nat.le_of_lt (stepP_mu n h)
    | false => exact Nat.le_of_eq (congrArg mu (stepP_blocked n h))
  | c app =>
    cases h : enabledC s with
    | true => exact Nat.le_of_lt (stepC_mu app h)
    | false => exact Nat.le_of_eq (congrArg mu (stepC_blocked app h))
  | gc => exact Nat.le_refl _

/-- no deadlock: while the run is not over, the reader or the flusher can take an effective step (a blocked flusher
    has returned, and then so has the reader; or it waits on an empty open channel, and then the reader is not blocked) -/
theorem not_stuck (cfg : Cfg) (hq : 1 ≤ cfg.qcap) (inv : Inv ig k tot s) (hf : s.finished = false) :
    enabledP cfg s = true ∨ enabledC s = true := by
  cases hC : enabledC s with
  | true => exact .inr rfl
  | false =>
    left
    unfold enabledC at hC
    unfold enabledP
    have hw := inv.wgEq
    cases hc : s.cpc with
    | exited =>
      have hd := inv.closedDone.mp (inv.exitedClosed hc)
      rw [St.finished, hd, hc] at hf
      cases hf
    | idle =>
      rw [hc, Bool.or_eq_false_iff, Bool.not_eq_false', List.isEmpty_iff] at hC
      rw [hc, hC.1] at hw
      cases hp : s.ppc with
      | enq _ _ => exact decide_eq_true (hC.1 ▸ hq)
      | wait => exact decide_eq_true (by rw [hw, hp]; rfl)
      | done => rw [inv.closedDone.mpr hp] at hC; cases hC.2
      | _ => rfl
    | _ => rw [hc] at hC; cases hC

theorem finished_step (e : Ev) (h : s.finished = true) :
    (step cfg ig k s e).finished = true := by
  have hp : s.ppc = .done ∧ s.cpc = .exited := by
    simpa only [St.finished, Bool.and_eq_true, beq_iff_eq] using h
  cases e with
  | p n => rw [step, stepP_blocked n (by rw [enabledP, hp.1])]; exact h
  | c app => rw [step, stepC_blocked app (by rw [enabledC, hp.2])]; exact h
  | gc => exact h

theorem finished_exec (σ : List Ev) (h : s.finished = true) :
    (exec cfg ig k s σ).finished = true := by
  induction σ generalizing s with
  | nil => exact h
  | cons e σ ih => exact ih (finished_step e h)

theorem exec_append (σ τ : List Ev) :
    exec cfg ig k s (σ ++ τ) = exec cfg ig k (exec cfg ig k s σ) τ :=
  List.foldl_append

end

/-! ### fairness: every schedule that starves neither goroutine completes the run -/

def Ev.isP : Ev → Bool
  | .p _ => true
  | _ => false

def Ev.isC : Ev → Bool
  | .c _ => true
  | _ => false

/-- number of complete rounds of a schedule; a round is a stretch in which the reading goroutine and the flusher
    goroutine are each scheduled at least once (in any order, any number of times, with any `gc` in between) -/
def rounds : Bool → Bool → List Ev → Nat
  | _, _, [] => 0
  | sp, sc, e :: τ =>
    if (sp || e.isP) && (sc || e.isC) then rounds false false τ + 1 else rounds (sp || e.isP) (sc || e.isC) τ

/-- within a round, against a budget `m`: `mu` is below `m`, or at most `m` with every goroutine scheduled so far in this
    round (`sp`, `sc`) found blocked -/
def Lag (cfg : Cfg) (s : St) (sp sc : Bool) (m : Nat) : Prop :=
  mu s + 1 ≤ m ∨ (mu s ≤ m ∧ (sp = true → enabledP cfg s = false) ∧ (sc = true → enabledC s = false))

section
variable {cfg : Cfg} {ig : List UInt8} {k : UInt8} {tot : List Group} {s : St} {sp sc : Bool} {m : Nat}

theorem fair_step (e : Ev) (H : Lag cfg s sp sc m) : Lag cfg (step cfg ig k s e) (sp || e.isP) (sc || e.isC) m := by
  rcases H with h | ⟨h1, h2, h3⟩
  · exact .inl (Nat.le_trans (Nat.succ_le_succ (step_mu_le e)) h)
  · cases e with
    | p n =>
      cases hen : enabledP cfg s with
      | true => exact .inl (Nat.le_trans (stepP_mu n hen) h1)
      | false =>
        rw [step, stepP_blocked n hen]
        simp only [Ev.isC, Bool.or_false]
        exact .inr ⟨h1, fun _ => hen, h3⟩
    | c app =>
      cases hen : enabledC s with
      | true => exact .inl (Nat.le_trans (stepC_mu app hen) h1)
      | false =>
        rw [step, stepC_blocked app hen]
        simp only [Ev.isP, Bool.or_false]
        exact .inr ⟨h1, h2, fun _ => hen⟩
    | gc =>
      simp only [Ev.isP, Ev.isC, Bool.or_false]
      exact .inr ⟨h1, h2, h3⟩

/-- with `m` complete rounds still to come and `Lag … m` (the caller starts a round with `m = mu s`), the run finishes:
    by `not_stuck` every complete round takes one off the budget -/
theorem fair_core (hq : 1 ≤ cfg.qcap) (τ : List Ev) (inv : Inv ig k tot s) (H : Lag cfg s sp sc m)
    (hm : m ≤ rounds sp sc τ) : (exec cfg ig k s τ).finished = true := by
  induction τ generalizing s sp sc m with
  | nil =>
    cases hf : s.finished with
    | true => exact hf
    | false =>
      -- no budget left, so `mu s = 0`; but an unfinished state has an effective step
      rw [rounds] at hm
      have hm : mu s ≤ 0 := Nat.le_trans (H.elim Nat.le_of_succ_le And.left) hm
      rcases not_stuck cfg hq inv hf with h | h
      · have := stepP_mu (ig := ig) (k := k) 0 h
        omega
      · have := stepC_mu false h
        omega
  | cons e τ ih =>
    have inv' := inv_step cfg e inv
    have hs := fair_step (ig := ig) (k := k) e H
    rw [rounds] at hm
    show (exec cfg ig k (step cfg ig k s e) τ).finished = true
    split at hm
    next hr =>
      rcases hs with h | ⟨_, h2, h3⟩
      · exact ih (sp := false) (sc := false) (m := m - 1) inv' (.inr ⟨by omega, nofun, nofun⟩) (by omega)
      · -- both were scheduled and found blocked in this state: it is finished
        rw [Bool.and_eq_true] at hr
        cases hf : (step cfg ig k s e).finished with
        | true => exact finished_exec _ hf
        | false =>
          rcases not_stuck cfg hq inv' hf with h | h
          · exact absurd h (h2 hr.1 ▸ Bool.false_ne_true)
          · exact absurd h (h3 hr.2 ▸ Bool.false_ne_true)
    next => exact ih inv' hs hm

end

/-- the round-robin schedule of `n` rounds -/
def roundRobin : Nat → List Ev
  | 0 => []
  | n + 1 => .p 0 :: .c false :: roundRobin n

theorem rounds_roundRobin (n : Nat) : rounds false false (roundRobin n) = n := by
  induction n with
  | zero => rfl
  | succ n ih => exact congrArg (· + 1) ih

end Accum
