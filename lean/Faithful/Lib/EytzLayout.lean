import Faithful.Lib.EytzSearch
namespace Eytz

theorem countP_or (l : List Nat) (p q : Nat → Bool) (h : ∀ x ∈ l, ¬ (p x = true ∧ q x = true)) :
    l.countP (fun x => p x || q x) = l.countP p + l.countP q := by
  induction l with
  | nil => rfl
  | cons x xs ih =>
    have hx := h x (List.mem_cons_self ..)
    rw [List.countP_cons, List.countP_cons, List.countP_cons, ih (fun y hy => h y (List.mem_cons_of_mem _ hy))]
    revert hx
    cases p x <;> cases q x <;> intro hx
    · rfl
    · simp only [Bool.false_or, if_true, Bool.false_eq_true, if_false]; omega
    · simp only [Bool.true_or, if_true, Bool.false_eq_true, if_false]; omega
    · exact absurd ⟨rfl, rfl⟩ hx

theorem size_eq_count (n k : Nat) : ∀ (hk : 0 < k),
    size n k = ((List.range (n+1)).countP (fun m => inSubB k m)) := by
  induction k using size.induct (n := n) with
  | case1 k h ih1 ih2 =>
    intro hk
    have h1 : (List.range (n+1)).countP (fun m => m == k) = 1 := by
      have := List.Nodup.count (a := k) (List.nodup_range (n := n+1))
      rwa [if_pos (by simp; omega)] at this
    have hroot : ∀ x ∈ List.range (n+1), ¬ ((x == k) = true ∧ (inSubB (2*k) x || inSubB (2*k+1) x) = true) := by
      intro x _ ⟨e0, e⟩
      have : x = k := by simpa using e0
      rcases Bool.or_eq_true .. |>.mp e with e | e <;> have := inSub_ge e <;> omega
    rw [size_pos h, ih1 (by omega), ih2 (by omega), funext (inSubB_split hk), countP_or _ _ _ hroot,
      countP_or _ _ _ (fun x _ ⟨e1, e2⟩ => inSub_disjoint hk e1 e2), h1, Nat.add_right_comm, Nat.add_comm]
  | case2 k h =>
    intro hk
    rw [size_zero h, eq_comm, List.countP_eq_zero]
    intro x hx hsub
    have := inSub_ge hsub
    simp at hx; omega

theorem inSub_one (m : Nat) (hm : 0 < m) : inSub 1 m := by
  induction m using Nat.strongRecOn with
  | _ m ih =>
    by_cases h : m = 1
    · subst h; exact inSub_self 1
    · rw [inSub_step (by omega)]
      exact ih (m/2) (by omega) (by omega)

theorem size_one (n : Nat) : size n 1 = n := by
  rw [size_eq_count n 1 (by omega)]
  have : ∀ l : List Nat, (∀ x ∈ l, x < n + 1) →
      l.countP (fun m => inSubB 1 m) = l.countP (fun m => decide (0 < m)) := by
    intro l _
    apply List.countP_congr
    intro x _
    by_cases hx : 0 < x
    · simp [hx, show inSubB 1 x = true from inSub_one x hx]
    · have : x = 0 := by omega
      subst this
      simp [inSubB]
  rw [this _ (by intro x hx; simpa using hx)]
  clear this
  induction n with
  | zero => simp [List.range_succ]
  | succ n ih => rw [List.range_succ, List.countP_append, ih]; simp

variable {β : Type} [Inhabited β]

def layout (xs : Array (Nat × β)) : Array (Nat × β) :=
  (fill xs xs.size 1 0 (Array.replicate xs.size default)).2

theorem layout_spec (xs : Array (Nat × β)) : (layout xs).size = xs.size ∧
    ∀ m, 0 < m → m ≤ xs.size → (layout xs).getD (m-1) default = xs.getD (rank xs.size 1 0 m) default := by
  obtain ⟨_, hsz, hval⟩ := fill_spec xs xs.size 1 0 (Array.replicate xs.size default) (by omega) Array.size_replicate
  refine ⟨hsz, fun m hm hmn => ?_⟩
  rw [layout, hval m hm hmn, if_pos (inSub_one m hm)]

theorem size_layout (xs : Array (Nat × β)) : (layout xs).size = xs.size := (layout_spec xs).1

theorem layout_getD_mem (xs : Array (Nat × β)) (p : Nat) (hp : p < xs.size) :
    ∃ j, j < xs.size ∧ (layout xs).getD p default = xs.getD j default := by
  have hr := rank_range xs.size (p+1) 1 0 (by omega) (inSub_one (p+1) (by omega)) (by omega)
  rw [size_one] at hr
  exact ⟨_, by omega, (layout_spec xs).2 (p+1) (by omega) (by omega)⟩

/-- every element of a strictly sorted input is found in its eytzinger layout, for every size -/
theorem layout_search_complete (xs : Array (Nat × β))
    (hsorted : ∀ p q, p < q → q < xs.size → (xs.getD p default).1 < (xs.getD q default).1)
    (j : Nat) (hj : j < xs.size) :
    search (layout xs) (xs.getD j default).1 (xs.size + 1) 0 = some (xs.getD j default).2 :=
  search_found xs (layout xs) xs.size (size_layout xs) hsorted 1 0 (by omega)
    (fun m hm hmn => (layout_spec xs).2 m (Nat.lt_of_lt_of_le (by omega) (inSub_ge hm)) hmn)
    (by rw [size_one]; omega) j (by omega) (by rw [size_one]; omega) (xs.size + 1) (by omega)

theorem layout_search_sound (xs : Array (Nat × β)) (x : Nat) (v : β)
    (h : search (layout xs) x (xs.size + 1) 0 = some v) :
    ∃ j, j < xs.size ∧ xs.getD j default = (x, v) := by
  obtain ⟨p, hp, hpv⟩ := search_sound _ _ _ _ _ h
  obtain ⟨j, hj, he⟩ := layout_getD_mem xs p (size_layout xs ▸ hp)
  exact ⟨j, hj, he ▸ hpv⟩

end Eytz

