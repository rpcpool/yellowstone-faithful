import Std.Data.HashMap
/-!
# Finite maps with a default, as used by the gsfa writer model (C06)

The Go writer keeps three `tidwall/hashmap`s (`accum`, `popRank.set`, `offsets`).  The model is generic over
an implementation `FMap ν d` of "total map `Addr → ν` that is `d` almost everywhere, with an enumeration of
the keys that may hold a non-default value".  Every theorem about the writer is proved for **all** lawful
implementations; two are provided:

* `FMap.fn`  — a function plus the list of keys ever set; evaluates inside the kernel (used by the
  non-vacuity examples and the concrete counter-example);
* `FMap.hm`  — `Std.HashMap`, used by the compiled driver `fdrv` (O(1) operations, so that histories with more
  than 100 000 distinct addresses can be replayed at the real thresholds).
-/
namespace Gsfa

abbrev Addr := Nat

/-- insert into an ascending duplicate-free list -/
def insertU (x : Nat) : List Nat → List Nat
  | [] => [x]
  | y :: ys => if x < y then x :: y :: ys else if x = y then y :: ys else y :: insertU x ys

/-- Go `sort.Ints` followed by `slices.Compact` (also: `Keys()` of a map followed by `Sort()`) -/
def sortDedup (l : List Nat) : List Nat := l.foldr insertU []

theorem mem_insertU {x z : Nat} {l : List Nat} : z ∈ insertU x l ↔ z = x ∨ z ∈ l := by
  induction l with
  | nil => simp [insertU]
  | cons y ys ih =>
    unfold insertU
    split
    · exact List.mem_cons
    · split
      · subst x; simp only [List.mem_cons, or_self_left]
      · simp only [List.mem_cons, ih, or_left_comm]

theorem mem_sortDedup {z : Nat} {l : List Nat} : z ∈ sortDedup l ↔ z ∈ l := by
  induction l with
  | nil => simp [sortDedup]
  | cons y ys ih =>
    have : sortDedup (y :: ys) = insertU y (sortDedup ys) := rfl
    rw [this, mem_insertU, ih]; simp

theorem pairwise_insertU {x : Nat} {l : List Nat} (h : l.Pairwise (· < ·)) : (insertU x l).Pairwise (· < ·) := by
  induction l with
  | nil => simp [insertU]
  | cons y ys ih =>
    unfold insertU
    have hy := List.pairwise_cons.mp h
    by_cases h1 : x < y
    · simp only [h1, if_true]
      refine List.pairwise_cons.mpr ⟨?_, h⟩
      intro z hz
      rcases List.mem_cons.mp hz with rfl | hz
      · exact h1
      · exact Nat.lt_trans h1 (hy.1 z hz)
    · by_cases h2 : x = y
      · simp [h2, h]
      · simp only [h1, h2, if_false]
        refine List.pairwise_cons.mpr ⟨?_, ih hy.2⟩
        intro z hz
        rcases mem_insertU.mp hz with rfl | hz
        · omega
        · exact hy.1 z hz

theorem pairwise_sortDedup (l : List Nat) : (sortDedup l).Pairwise (· < ·) := by
  induction l with
  | nil => simp [sortDedup]
  | cons y ys ih => exact pairwise_insertU ih

theorem nodup_sortDedup (l : List Nat) : (sortDedup l).Nodup := by
  have := pairwise_sortDedup l
  exact this.imp (fun h => Nat.ne_of_lt h)

/-- a total map `Addr → ν` equal to `d` except on finitely many keys -/
structure FMap (ν : Type) (d : ν) where
  M : Type
  empty : M
  get : M → Addr → ν
  /-- `set m k d` deletes the key -/
  set : M → Addr → ν → M
  /-- the keys that may hold a non-default value, ascending (Go: `Keys()` then `Sort()`) -/
  keys : M → List Addr
  /-- number of keys holding a non-default value (Go: `Len()`) -/
  size : M → Nat
  get_empty : ∀ k, get empty k = d
  get_set : ∀ m k v k', get (set m k v) k' = if k' = k then v else get m k'
  keys_complete : ∀ m k, get m k ≠ d → k ∈ keys m

/-- kernel-friendly implementation: a function and the keys ever set -/
def FMap.fn (ν : Type) [DecidableEq ν] (d : ν) : FMap ν d where
  M := { m : (Addr → ν) × List Addr // ∀ k, m.1 k ≠ d → k ∈ m.2 }
  empty := ⟨(fun _ => d, []), fun _ h => absurd rfl h⟩
  get m k := m.1.1 k
  set m k v := ⟨(fun x => if x = k then v else m.1.1 x, k :: m.1.2), by
    intro x hx
    by_cases hxk : x = k
    · simp [hxk]
    · simp only [hxk, if_false] at hx
      exact List.mem_cons_of_mem _ (m.2 x hx)⟩
  keys m := (sortDedup m.1.2).filter (fun k => m.1.1 k ≠ d)
  size m := ((sortDedup m.1.2).filter (fun k => m.1.1 k ≠ d)).length
  get_empty := fun _ => rfl
  get_set := fun _ _ _ _ => rfl
  keys_complete := by
    intro m k h
    simp only [List.mem_filter, mem_sortDedup, decide_eq_true_eq]
    exact ⟨m.2 k h, h⟩

/-- `Std.HashMap` implementation used by the compiled driver -/
def FMap.hm (ν : Type) [DecidableEq ν] (d : ν) : FMap ν d where
  M := Std.HashMap Nat ν
  empty := ∅
  get m k := m.getD k d
  set m k v := if v = d then m.erase k else m.insert k v
  keys m := m.keys.mergeSort (fun a b => decide (a ≤ b))
  size m := m.size
  get_empty := fun _ => Std.HashMap.getD_empty
  get_set := by
    intro m k v k'
    by_cases hv : v = d
    · simp only [hv, if_true, Std.HashMap.getD_erase]
      by_cases h : k' = k
      · simp [h]
      · have : (k == k') = false := by simp; exact fun e => h e.symm
        simp [this, h]
    · simp only [hv, if_false, Std.HashMap.getD_insert]
      by_cases h : k' = k
      · simp [h]
      · have : (k == k') = false := by simp; exact fun e => h e.symm
        simp [this, h]
  keys_complete := by
    intro m k h
    rw [List.mem_mergeSort, Std.HashMap.mem_keys]
    apply Classical.byContradiction
    intro hc
    exact h (Std.HashMap.getD_eq_fallback hc)

end Gsfa
