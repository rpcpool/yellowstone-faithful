import Faithful.Lib.FirstSuccessSys
import Faithful.Generated.IntFns
import Faithful.Generated.Consts

/-!
# getBlock / getTransaction / getBlockTime over an abstract archive (property C02)

Model of the request path of /repo/multiepoch-getBlock.go (`handleGetBlock`), /repo/grpc-server.go (`GetBlock`,
`GetTransaction`, `GetBlockTime`), /repo/multiepoch-getTransaction.go (`handleGetTransaction`,
`findEpochNumberFromSignature`), /repo/multiepoch-getBlockTime.go and of the object fetch of /repo/epoch.go
(`GetNodeByCid` → `FindOffsetAndSizeFromCid` → `GetNodeByOffsetAndSize`) with the process-wide cache of
/repo/huge-cache/cache.go.

Two layers.

* **Archive layer** (`getBlock`, `getTransaction`, `getBlockTime`): an epoch is a list of blocks, a block a list of
  entries, an entry a hash and a list of transactions carrying signature, slot, recorded position, payload bytes and
  (uncompressed) metadata bytes.  The index lookups are read as exact maps over the archive (`findBlock`, `findTx`,
  `blocktimeIdx`): that the index files implement these maps is property C01 (hash collisions of the compact index
  are C03, payload reassembly from linked frames is C14, zstd is a third-party codec).  What is modelled line by line
  is the handler logic: slot → epoch by `/ 432000`; signature → epoch by the sig-exists pre-filter and the parallel
  first-success search (`FSys`/`FindEpoch` of property C18, reused, not re-modelled) — skipped when exactly one epoch
  is loaded; entries and transactions fetched concurrently into index-addressed slots (`fill` over the completions in
  ANY order), merge, sort by position with ANY `sort.Slice` (`SortFn`); blockhash = hash of the last entry;
  previousBlockhash = hash of the parent's last entry when `slot ≠ 0 ∧ epoch(parent) = epoch(slot)` (the repaired
  condition of fixes/C02-2.patch), the slot-0 special case (genesis creation time, height 0, previousBlockhash = own blockhash).
* **Store layer** (`getNode`, `getBlockS`, `getTransactionS`): every object the handlers need is fetched by CID
  through the epoch: raw-object cache (keyed by CID; any content), then the offset cache, then the epoch's
  cid-to-offset index; the CAR section read at that offset is accepted only if it carries the wanted CID.  The key
  of the offset cache is a parameter (`Key`): `pairKey` = (epoch, cid) is the repaired code (fixes/C02-1.patch),
  `cidKey` = cid alone is the pinned tree.  `getNode_ok` shows the cache is harmless exactly when the keying never
  identifies two index entries with different offsets (`KeyOk`); `pairKey` always satisfies it, `cidKey` only when no
  CID is stored at different offsets in two loaded epochs.

Failure classes follow the code: a failed block / entry / frame / parent fetch is "Internal error"; a failed fetch of
a transaction node inside getBlock leaves a nil slot that is dereferenced (`panic`).

Not modelled: rewards (the property does not mention them), the lassie/Filecoin fetcher, the CAR prefetcher of
getBlock (it only fills the raw-object cache, which `getNode` treats as arbitrary), `jsonParsed`.
Core Lean only.
-/

namespace Rpc
open FS FSys FindEpoch

abbrev Bytes := List UInt8
abbrev Cid := Nat

/-! ## the archive -/

structure Tx where
  sig : Nat                -- first signature (64 bytes, big-endian number)
  slot : Nat               -- `transactionNode.Slot`
  pos : Option Nat         -- `transactionNode.GetPositionIndex()`: the recorded position, when recorded
  payload : Bytes          -- `LoadDataFromDataFrames(&transactionNode.Data)`: the transaction bytes
  mdata : Bytes            -- the metadata payload after reassembly and zstd decompression
  cid : Cid                -- CID of the Transaction node
  frames : List Cid        -- CIDs of the continuation DataFrames (of `Data` and `Metadata`)
  tag : String := ""       -- opaque: renderings by third-party encoders (used by the driver only)
deriving DecidableEq, Repr

structure Entry where
  hash : Bytes
  txs : List Tx
  cid : Cid
deriving DecidableEq, Repr

structure Block where
  slot : Nat
  parent : Nat             -- `block.Meta.Parent_slot`
  time : Nat               -- `block.Meta.Blocktime`
  height : Option Nat      -- `block.GetBlockHeight()`
  entries : List Entry
  cid : Cid
deriving DecidableEq, Repr

structure Epoch where
  num : Nat
  blocks : List Block
  genesisTime : Option Nat := none    -- `genesis.Config.CreationTime.Unix()` (epoch 0 only)
  objs : List (Cid × Nat) := []       -- the CAR sections of the epoch: (cid, offset); also the cid-to-offset index
deriving DecidableEq, Repr

def epochLen : Nat := 432000
/-- `slottools.CalcEpochForSlot` -/
def epochOf (slot : Nat) : Nat := slot / epochLen

/-- `MultiEpoch.GetEpoch` (the map is keyed by the epoch number) -/
def lookupEpoch (es : List Epoch) (n : Nat) : Option Epoch := es.find? (fun e => e.num == n)

/-- slot-to-cid index + `GetNodeByCid` + `DecodeBlock`, read as a map over the archive (C01) -/
def findBlock (ep : Epoch) (slot : Nat) : Option Block := ep.blocks.find? (fun b => b.slot == slot)

def blockTxs (b : Block) : List Tx := b.entries.flatMap (·.txs)
def allTxs (ep : Epoch) : List Tx := ep.blocks.flatMap blockTxs

/-- sig-to-cid index + `GetNodeByCid` + `DecodeTransaction` (C01) -/
def findTx (ep : Epoch) (sig : Nat) : Option Tx := (allTxs ep).find? (fun t => t.sig == sig)

/-- `blocktimeindex.Index.Get`: one value per slot of the epoch, 0 where no block was recorded; an error outside -/
def blocktimeIdx (ep : Epoch) (slot : Nat) : Option Nat :=
  if epochOf slot = ep.num then some (((findBlock ep slot).map (·.time)).getD 0) else none

inductive Resp (α : Type) where
  | ok (a : α)
  | null                          -- JSON `result: null` / gRPC NotFound: slot skipped, signature unknown
  | epochUnavailable (e : Nat)    -- "Epoch %d is not available"
  | internal                      -- "Internal error" / codes.Internal
  | panic                         -- nil dereference in the handler
deriving DecidableEq, Repr

structure BlockResp where
  slot : Nat                         -- gRPC only
  parentSlot : Nat
  blockTime : Nat                    -- 0 = absent (JSON null, gRPC 0)
  blockHeight : Option Nat           -- JSON null / gRPC 0 when `none`
  blockhash : Bytes
  previousBlockhash : Option Bytes
  txs : List Tx                      -- in response order
deriving DecidableEq, Repr

structure TxResp where
  slot : Nat
  blockTime : Nat
  pos : Option Nat                   -- gRPC `index`
  tx : Tx
deriving DecidableEq, Repr

/-! ## concurrent fetch into index-addressed slots -/

/-- `allTransactionNodes [][]*Transaction`: slot (entry index, index in the entry) ↦ pointer (nil = `none`) -/
abbrev Slots := Nat → Nat → Option Tx

/-- one finished transaction goroutine: `allTransactionNodes[entryIndex][txI] = txNode` -/
structure Comp where
  i : Nat
  j : Nat
  tx : Tx
deriving DecidableEq, Repr

def emptySlots : Slots := fun _ _ => none
def put (s : Slots) (c : Comp) : Slots := fun i j => if i = c.i ∧ j = c.j then some c.tx else s i j
/-- the completions in the order in which they happened -/
def fill (s : Slots) (cs : List Comp) : Slots := cs.foldl put s

/-- `f e` for `some e`, nothing for `none` -/
def optList {α β : Type} (o : Option α) (f : α → List β) : List β :=
  match o with
  | some e => f e
  | none => []

def rowComps (i : Nat) (txs : List Tx) : List Comp := (List.range txs.length).filterMap fun j => (txs[j]?).map fun t => ⟨i, j, t⟩
/-- the goroutines the handler starts for a block: one per transaction link of every entry -/
def completions (b : Block) : List Comp :=
  (List.range b.entries.length).flatMap fun i => optList b.entries[i]? fun e => rowComps i e.txs

/-- `mergeTxNodeSlices`: the rows in entry order, each row `make([]*Transaction, len(entryNode.Transactions))` -/
def merge (b : Block) (s : Slots) : List (Option Tx) :=
  (List.range b.entries.length).flatMap fun i => optList b.entries[i]? fun e => (List.range e.txs.length).map (s i)

def allSome : List (Option Tx) → Option (List Tx)
  | [] => some []
  | none :: _ => none
  | some t :: rest => (allSome rest).map (t :: ·)

/-- a schedule of the fetch goroutines = the order in which they complete -/
structure Sched where
  run : List Comp → List Comp
  perm : ∀ l, (run l).Perm l

def Sched.fifo : Sched := ⟨id, fun _ => .refl _⟩
def Sched.lifo : Sched := ⟨List.reverse, fun l => List.reverse_perm l⟩

/-- JSON: `txResp.Position` stays 0 when the node has no recorded index -/
def posKey (t : Tx) : Nat := t.pos.getD 0

/-- `sort.Slice(allTransactions, less)` with `less i j = Position_i < Position_j`: any sorted permutation -/
structure SortFn where
  sort : List Tx → List Tx
  perm : ∀ l, (sort l).Perm l
  sorted : ∀ l, (sort l).Pairwise (fun a b => posKey a ≤ posKey b)

def SortFn.merge : SortFn where
  sort l := l.mergeSort (fun a b => decide (posKey a ≤ posKey b))
  perm l := List.mergeSort_perm l _
  sorted l := by
    have := List.pairwise_mergeSort (le := fun a b => decide (posKey a ≤ posKey b))
      (fun a b c hab hbc => by simp only [decide_eq_true_eq] at *; omega)
      (fun a b => by simp only [Bool.or_eq_true, decide_eq_true_eq]; omega) l
    exact this.imp (by intro a b h; simpa using h)

/-- insertion sort by `posKey` (structural, so that concrete instances reduce in the kernel) -/
def insertTx (x : Tx) : List Tx → List Tx
  | [] => [x]
  | y :: ys => if posKey x ≤ posKey y then x :: y :: ys else y :: insertTx x ys
def insSortTx : List Tx → List Tx
  | [] => []
  | x :: xs => insertTx x (insSortTx xs)

theorem insertTx_perm (x : Tx) (l : List Tx) : (insertTx x l).Perm (x :: l) := by
  fun_induction insertTx x l with
  | case1 | case2 => exact .refl _
  | case3 y ys _ ih => exact (ih.cons y).trans (.swap x y ys)

theorem insSortTx_perm (l : List Tx) : (insSortTx l).Perm l := by
  fun_induction insSortTx l with
  | case1 => exact .refl _
  | case2 x xs ih => exact (insertTx_perm x _).trans (ih.cons x)

theorem insertTx_sorted (x : Tx) (l : List Tx) (h : l.Pairwise (fun a b => posKey a ≤ posKey b)) :
    (insertTx x l).Pairwise (fun a b => posKey a ≤ posKey b) := by
  fun_induction insertTx x l with
  | case1 => simp
  | case2 y ys hxy =>
    refine List.pairwise_cons.mpr ⟨fun z hz => ?_, h⟩
    rcases List.mem_cons.mp hz with rfl | hz
    · exact hxy
    · exact Nat.le_trans hxy (List.rel_of_pairwise_cons h hz)
  | case3 y ys hxy ih =>
    refine List.pairwise_cons.mpr ⟨fun z hz => ?_, ih h.of_cons⟩
    rcases List.mem_cons.mp ((insertTx_perm x ys).subset hz) with rfl | hz
    · omega
    · exact List.rel_of_pairwise_cons h hz

theorem insSortTx_sorted (l : List Tx) : (insSortTx l).Pairwise (fun a b => posKey a ≤ posKey b) := by
  fun_induction insSortTx l with
  | case1 => simp
  | case2 x xs ih => exact insertTx_sorted x _ ih

def SortFn.ins : SortFn := ⟨insSortTx, insSortTx_perm, insSortTx_sorted⟩

/-- gRPC comparator: `if Index_i == nil || Index_j == nil { return false }; return *Index_i < *Index_j` -/
def lessGrpc (a b : Tx) : Bool :=
  match a.pos, b.pos with
  | some x, some y => decide (x < y)
  | _, _ => false

/-- the transactions of the block as the handler collects them, in response order; `none` = a nil slot is dereferenced -/
def assemble (S : SortFn) (σ : Sched) (b : Block) : Option (List Tx) :=
  (allSome (merge b (fill emptySlots (σ.run (completions b))))).map S.sort

def zeros32 : Bytes := List.replicate 32 0
/-- `solana.HashFromBytes`: copy into a `[32]byte` -/
def hash32 (h : Bytes) : Bytes := (h ++ zeros32).take 32

/-- `lastEntryHash`: written by the goroutine of the last entry only; the zero hash for a block without entries -/
def lastHash (b : Block) : Bytes :=
  match b.entries.getLast? with
  | some e => hash32 e.hash
  | none => zeros32

/-- the condition under which the handler looks the parent up in the same epoch handler: every block but slot 0
whose parent slot is in the block's epoch.  This is the REPAIRED condition (fixes/C02-2.patch: `slot != 0 && …`); the
pinned tree has `(parentSlot != 0 || slot == 1) && …`, which differs exactly on blocks with slot ≥ 2 and parent 0. -/
def wantsParent (ep : Epoch) (b : Block) : Bool :=
  decide (b.slot ≠ 0) && decide (epochOf b.parent = ep.num)

/-- the condition of the pinned tree, kept for the comparison `wantsParent_pinned_differs` -/
def wantsParentPinned (ep : Epoch) (b : Block) : Bool :=
  (decide (b.parent ≠ 0) || decide (b.slot = 1)) && decide (epochOf b.parent = ep.num)

/-- `previousBlockhash`; `.internal` = "failed to get/decode block" -/
def prevHash (ep : Epoch) (b : Block) : Resp (Option Bytes) :=
  let base : Option Bytes := if b.slot = 0 then some (lastHash b) else none
  if wantsParent ep b then
    match findBlock ep b.parent with
    | none => .internal
    | some pb =>
      match pb.entries.getLast? with
      | none => .ok base
      | some e => .ok (some (hash32 e.hash))
  else .ok base

def blockRespOf (ep : Epoch) (b : Block) (txs : List Tx) (prev : Option Bytes) : BlockResp :=
  { slot := b.slot
    parentSlot := if b.slot = 0 then 0 else b.parent
    blockTime := if b.slot = 0 then ep.genesisTime.getD b.time else b.time
    blockHeight := match b.height with
      | some h => some h
      | none => if b.slot = 0 then some 0 else none
    blockhash := lastHash b
    previousBlockhash := prev
    txs := txs }

/-- the response for a block the epoch handler has returned -/
def blockAnswer (S : SortFn) (σ : Sched) (ep : Epoch) (b : Block) : Resp BlockResp :=
  match assemble S σ b with
  | none => .panic
  | some txs =>
    match prevHash ep b with
    | .ok prev => .ok (blockRespOf ep b txs prev)
    | _ => .internal

/-- `handleGetBlock` / gRPC `GetBlock` -/
def getBlock (S : SortFn) (σ : Sched) (es : List Epoch) (slot : Nat) : Resp BlockResp :=
  match lookupEpoch es (epochOf slot) with
  | none => .epochUnavailable (epochOf slot)
  | some ep =>
    match findBlock ep slot with
    | none => .null
    | some b => blockAnswer S σ ep b

/-- `handleGetBlockTime` / gRPC `GetBlockTime` (JSON prints `null` for 0) -/
def getBlockTime (es : List Epoch) (slot : Nat) : Resp Nat :=
  match lookupEpoch es (epochOf slot) with
  | none => .epochUnavailable (epochOf slot)
  | some ep =>
    match blocktimeIdx ep slot with
    | some t => .ok t
    | none => .null

/-- what the search job of an epoch answers for a signature (exact sig-exists and sig-to-cid indexes: C05, C01) -/
def kindOf (ep : Epoch) (sig : Nat) : Kind := if (findTx ep sig).isSome then .hit else .hasFalse

def insertDesc (x : Nat) : List Nat → List Nat
  | [] => [x]
  | y :: ys => if y ≤ x then x :: y :: ys else y :: insertDesc x ys
def sortDesc : List Nat → List Nat
  | [] => []
  | x :: xs => insertDesc x (sortDesc xs)

theorem insertDesc_perm (x : Nat) (l : List Nat) : (insertDesc x l).Perm (x :: l) := by
  fun_induction insertDesc x l with
  | case1 | case2 => exact .refl _
  | case3 y ys _ ih => exact (ih.cons y).trans (.swap x y ys)

theorem sortDesc_perm (l : List Nat) : (sortDesc l).Perm l := by
  fun_induction sortDesc l with
  | case1 => exact .refl _
  | case2 x xs ih => exact (insertDesc_perm x _).trans (ih.cons x)

/-- `GetEpochNumbers` sorted from highest to lowest (the numbers are the keys of a map, hence distinct: every sorting
algorithm gives this list) -/
def numbersDesc (es : List Epoch) : List Nat := sortDesc (es.map (·.num))

/-- the jobs of `findEpochNumberFromSignature`, in the order they are handed to `FirstSuccess` -/
def searchEps (es : List Epoch) (sig : Nat) : List (Nat × Kind) :=
  (numbersDesc es).map fun n => (n, match lookupEpoch es n with
    | some ep => kindOf ep sig
    | none => .noBucket)

def txAnswer (ep : Epoch) (sig : Nat) : Resp TxResp :=
  match findTx ep sig with
  | none => .null
  | some t =>
    match blocktimeIdx ep t.slot with
    | none => .internal
    | some bt => .ok { slot := t.slot, blockTime := bt, pos := t.pos, tx := t }

/-- `handleGetTransaction` / gRPC `GetTransaction`; `r` = what the parallel search returned (not consulted when one
epoch is loaded) -/
def getTransaction (es : List Epoch) (r : Res Nat JErr) (sig : Nat) : Resp TxResp :=
  if es.isEmpty then .internal else
  match findResult (searchEps es sig) r with
  | .notFound => .null
  | .internal _ => .internal
  | .found e =>
    match lookupEpoch es e with
    | none => .epochUnavailable e
    | some ep => txAnswer ep sig

/-- the search result under a concrete schedule: the driver's scheduler (`FSys.prioRun`) with completion order `order`;
the fuel is one more than the `5 * n + 3` actions any schedule has (`C18.fs_terminates`) -/
def searchRun (limit : Int) (eps : List (Nat × Kind)) (order : List Nat) : Res Nat JErr :=
  let c := cfgOf limit eps
  match (prioRun c order (5 * c.n + 4) init [] 0).2.1.main with
  | .done r => r
  | _ => .err []

/-! ## the object store: index, CAR, caches -/

/-- cid-to-offset(-and-size) index of the epoch -/
def idx (ep : Epoch) (c : Cid) : Option Nat := (ep.objs.find? (fun o => o.1 == c)).map (·.2)
/-- the CID of the section that starts at `off` in the epoch's CAR (`parseNodeFromSection`) -/
def carAt (ep : Epoch) (off : Nat) : Option Cid := (ep.objs.find? (fun o => o.2 == off)).map (·.1)

/-- `GetNodeByCid` without any cache: index, read, compare the CID -/
def has (ep : Epoch) (c : Cid) : Bool :=
  match idx ep c with
  | some off => carAt ep off == some c
  | none => false

abbrev CKey := Nat × Cid
abbrev Key := Nat → Cid → CKey
/-- the repaired key of the offset cache: epoch and CID -/
def pairKey : Key := fun e c => (e, c)
/-- the key of the pinned tree: the CID alone -/
def cidKey : Key := fun _ c => (0, c)

abbrev Cache := List (CKey × Nat)
def cacheGet (cache : Cache) (k : CKey) : Option Nat := (cache.find? (fun e => e.1 == k)).map (·.2)

/-- `Epoch.GetNodeByCid` in CAR mode.  `raw` = the raw-object cache (keyed by CID; a hit returns the cached bytes,
which are the object's bytes by content addressing).  Returns success and the new offset cache. -/
def getNode (key : Key) (raw : Cid → Bool) (cache : Cache) (ep : Epoch) (c : Cid) : Bool × Cache :=
  if raw c then (true, cache) else
  match cacheGet cache (key ep.num c) with
  | some off => (carAt ep off == some c, cache)
  | none =>
    match idx ep c with
    | none => (false, cache)
    | some off => (carAt ep off == some c, (key ep.num c, off) :: cache)

/-- several fetches one after the other (any order the goroutines happen to run in) -/
def getNodes (key : Key) (raw : Cid → Bool) (cache : Cache) (ep : Epoch) : List Cid → List Bool × Cache
  | [] => ([], cache)
  | c :: cs =>
    let r := getNode key raw cache ep c
    let rs := getNodes key raw r.2 ep cs
    (r.1 :: rs.1, rs.2)

/-- the cached offset never contradicts the index of an epoch whose key it is stored under -/
def CacheOk (es : List Epoch) (key : Key) (cache : Cache) : Prop :=
  ∀ k off, (k, off) ∈ cache → ∀ ep ∈ es, ∀ c, key ep.num c = k → ∀ off', idx ep c = some off' → off' = off

/-- the keying never identifies two index entries with different offsets -/
def KeyOk (es : List Epoch) (key : Key) : Prop :=
  ∀ ep ∈ es, ∀ ep2 ∈ es, ∀ c c2 off off2, key ep.num c = key ep2.num c2 →
    idx ep c = some off → idx ep2 c2 = some off2 → off = off2

def UniqueNums (es : List Epoch) : Prop := (es.map (·.num)).Nodup

/-- no CID is stored at different offsets in two loaded epochs -/
def NoSharedCid (es : List Epoch) : Prop :=
  ∀ ep ∈ es, ∀ ep2 ∈ es, ∀ c off off2, idx ep c = some off → idx ep2 c = some off2 → off = off2

theorem find?_of_nodup_map {α β : Type} [DecidableEq β] (f : α → β) :
    ∀ (l : List α) (a : α), (l.map f).Nodup → a ∈ l → l.find? (fun x => f x == f a) = some a := by
  intro l
  induction l with
  | nil => intro a _ h; cases h
  | cons x xs ih =>
    intro a hn ha
    simp only [List.map_cons, List.nodup_cons] at hn
    by_cases hx : f x = f a
    · rcases List.mem_cons.mp ha with rfl | ha'
      · simp
      · exact absurd (hx ▸ List.mem_map_of_mem ha') hn.1
    · rcases List.mem_cons.mp ha with rfl | ha'
      · exact absurd rfl hx
      · rw [List.find?_cons_of_neg (by simpa using hx)]
        exact ih a hn.2 ha'

theorem lookupEpoch_of_mem (es : List Epoch) (ep : Epoch) (hu : UniqueNums es) (h : ep ∈ es) :
    lookupEpoch es ep.num = some ep :=
  find?_of_nodup_map (fun e : Epoch => e.num) es ep hu h

theorem lookupEpoch_some (es : List Epoch) (n : Nat) (ep : Epoch) (h : lookupEpoch es n = some ep) :
    ep ∈ es ∧ ep.num = n := by
  unfold lookupEpoch at h
  exact ⟨List.mem_of_find?_eq_some h, by simpa using List.find?_some h⟩

theorem findBlock_of_mem (ep : Epoch) (b : Block) (hn : (ep.blocks.map (·.slot)).Nodup) (h : b ∈ ep.blocks) :
    findBlock ep b.slot = some b :=
  find?_of_nodup_map (fun x : Block => x.slot) ep.blocks b hn h

theorem findTx_of_mem (ep : Epoch) (t : Tx) (hn : ((allTxs ep).map (·.sig)).Nodup) (h : t ∈ allTxs ep) :
    findTx ep t.sig = some t :=
  find?_of_nodup_map (fun x : Tx => x.sig) (allTxs ep) t hn h

theorem findTx_some (ep : Epoch) (sig : Nat) (t : Tx) (h : findTx ep sig = some t) : t ∈ allTxs ep ∧ t.sig = sig := by
  unfold findTx at h
  exact ⟨List.mem_of_find?_eq_some h, by simpa using List.find?_some h⟩

theorem fill_cons (s : Slots) (c : Comp) (cs : List Comp) : fill s (c :: cs) = fill (put s c) cs := rfl

theorem fill_eq (cs : List Comp) (s : Slots) (i j : Nat) (o : Option Tx)
    (h : ∀ c ∈ cs, c.i = i → c.j = j → some c.tx = o) :
    fill s cs i j = if ∃ c ∈ cs, c.i = i ∧ c.j = j then o else s i j := by
  induction cs generalizing s with
  | nil => simp [fill]
  | cons c cs ih =>
    rw [fill_cons, ih _ fun c' hc' => h c' (List.mem_cons_of_mem _ hc')]
    by_cases hc : c.i = i ∧ c.j = j
    · simp [put, hc.1, hc.2, h c List.mem_cons_self hc.1 hc.2]
    · simp [put, hc, show ¬ (i = c.i ∧ j = c.j) from fun h => hc ⟨h.1.symm, h.2.symm⟩]

theorem mem_rowComps (i : Nat) (txs : List Tx) (c : Comp) :
    c ∈ rowComps i txs ↔ c.i = i ∧ txs[c.j]? = some c.tx := by
  unfold rowComps
  simp only [List.mem_filterMap, List.mem_range, Option.map_eq_some_iff]
  constructor
  · rintro ⟨j, _, t, ht, rfl⟩
    exact ⟨rfl, ht⟩
  · rintro ⟨hi, ht⟩
    refine ⟨c.j, ?_, c.tx, ht, ?_⟩
    · exact (List.getElem?_eq_some_iff.mp ht).1
    · cases c; simp_all

theorem mem_completions (b : Block) (c : Comp) :
    c ∈ completions b ↔ ∃ e, b.entries[c.i]? = some e ∧ e.txs[c.j]? = some c.tx := by
  unfold completions
  simp only [List.mem_flatMap, List.mem_range]
  constructor
  · rintro ⟨i, hi, hc⟩
    rw [List.getElem?_eq_getElem hi] at hc
    have := (mem_rowComps i _ c).mp hc
    exact ⟨b.entries[i], by rw [this.1, List.getElem?_eq_getElem hi], this.2⟩
  · rintro ⟨e, he, ht⟩
    have hi := (List.getElem?_eq_some_iff.mp he).1
    refine ⟨c.i, hi, ?_⟩
    rw [he]
    exact (mem_rowComps c.i e.txs c).mpr ⟨rfl, ht⟩

/-- the slots after ALL completions, in whatever order: slot (i, j) holds the j-th transaction of the i-th entry -/
theorem fill_completions (b : Block) (cs : List Comp) (hp : cs.Perm (completions b)) (i j : Nat) :
    fill emptySlots cs i j = (b.entries[i]?).bind (fun e => e.txs[j]?) := by
  have hmem : ∀ c, c ∈ cs ↔ ∃ e, b.entries[c.i]? = some e ∧ e.txs[c.j]? = some c.tx :=
    fun c => (hp.mem_iff).trans (mem_completions b c)
  have ho : ∀ c ∈ cs, c.i = i → c.j = j → some c.tx = (b.entries[i]?).bind (fun e => e.txs[j]?) := by
    rintro c hc rfl rfl
    obtain ⟨e, he, ht⟩ := (hmem c).mp hc
    simp [he, ht]
  rw [fill_eq cs _ i j _ ho]
  split
  · rfl
  · rename_i hno
    cases ht : (b.entries[i]?).bind (fun e => e.txs[j]?) with
    | none => rfl
    | some t =>
      obtain ⟨e, he, ht⟩ := Option.bind_eq_some_iff.mp ht
      exact absurd ⟨⟨i, j, t⟩, (hmem _).mpr ⟨e, he, ht⟩, rfl, rfl⟩ hno

theorem range_map_getElem? {α : Type} (l : List α) : (List.range l.length).map (fun j => l[j]?) = l.map some := by
  apply List.ext_getElem
  · simp
  · intro n h1 h2
    simp only [List.length_map, List.length_range] at h1
    simp [List.getElem?_eq_getElem h1]

theorem range_flatMap_take {α β : Type} (l : List α) (f : α → List β) : ∀ n,
    ((List.range n).flatMap fun i => optList l[i]? f) = (l.take n).flatMap f := by
  intro n
  induction n with
  | zero => rfl
  | succ n ih =>
    rw [List.range_succ, List.flatMap_append, ih, List.take_add_one, List.flatMap_append]
    congr 1
    cases h : l[n]? <;> simp [optList, h]

theorem range_flatMap_getElem? {α β : Type} (l : List α) (f : α → List β) :
    ((List.range l.length).flatMap fun i => optList l[i]? f) = l.flatMap f := by
  rw [range_flatMap_take l f l.length, List.take_length]

theorem flatMap_congr' {α β : Type} (l : List α) (f g : α → List β) (h : ∀ a ∈ l, f a = g a) : l.flatMap f = l.flatMap g := by
  rw [List.flatMap_def, List.flatMap_def, List.map_congr_left h]

theorem nodup_map_inj {α β : Type} (f : α → β) : ∀ (l : List α), (l.map f).Nodup → ∀ a ∈ l, ∀ b ∈ l, f a = f b → a = b := by
  intro l
  induction l with
  | nil => intro _ a ha; cases ha
  | cons x xs ih =>
    intro hn a ha b hb hab
    simp only [List.map_cons, List.nodup_cons] at hn
    rcases List.mem_cons.mp ha with rfl | ha' <;> rcases List.mem_cons.mp hb with rfl | hb'
    · rfl
    · exact absurd (hab ▸ List.mem_map_of_mem hb') hn.1
    · exact absurd (hab ▸ List.mem_map_of_mem ha') hn.1
    · exact ih hn.2 a ha' b hb' hab

theorem allSome_map_some (l : List Tx) : allSome (l.map some) = some l := by
  induction l with
  | nil => rfl
  | cons a l ih => simp [allSome, ih]

theorem merge_fill (b : Block) (cs : List Comp) (hp : cs.Perm (completions b)) :
    merge b (fill emptySlots cs) = (blockTxs b).map some := by
  unfold merge blockTxs
  have : ∀ i ∈ List.range b.entries.length,
      (optList b.entries[i]? fun e => (List.range e.txs.length).map (fill emptySlots cs i))
      = optList b.entries[i]? (fun e => e.txs.map some) := by
    intro i _
    cases he : b.entries[i]? with
    | none => rfl
    | some e =>
      simp only [optList]
      rw [← range_map_getElem?]
      apply List.map_congr_left
      intro j _
      rw [fill_completions b cs hp i j, he]
      rfl
  rw [flatMap_congr' _ _ _ this, range_flatMap_getElem? b.entries (fun e => e.txs.map some), List.map_flatMap]

/-- **the collected transactions do not depend on the schedule**, and no slot is left nil -/
theorem assemble_eq (S : SortFn) (σ : Sched) (b : Block) : assemble S σ b = some (S.sort (blockTxs b)) := by
  unfold assemble
  rw [merge_fill b _ (σ.perm _), allSome_map_some]
  rfl

theorem sorted_perm_unique (l1 l2 : List Tx) (hp : l1.Perm l2)
    (hd : (l2.map posKey).Nodup)
    (h1 : l1.Pairwise (fun a b => posKey a ≤ posKey b)) (h2 : l2.Pairwise (fun a b => posKey a ≤ posKey b)) : l1 = l2 := by
  apply List.Perm.eq_of_pairwise (le := fun a b => posKey a ≤ posKey b) _ h1 h2 hp
  intro a b ha hb hab hba
  have hk : posKey a = posKey b := by omega
  have ha2 : a ∈ l2 := hp.subset ha
  exact nodup_map_inj posKey l2 hd a ha2 b hb hk

theorem cacheGet_some (cache : Cache) (k : CKey) (off : Nat) (h : cacheGet cache k = some off) : (k, off) ∈ cache := by
  obtain ⟨⟨k', o⟩, hf, rfl⟩ := Option.map_eq_some_iff.mp h
  have hk : k' = k := by simpa using List.find?_some hf
  exact hk ▸ List.mem_of_find?_eq_some hf

/-- entries may be evicted at any time -/
theorem cacheOk_sublist (es : List Epoch) (key : Key) (c c' : Cache) (hs : c'.Sublist c) (h : CacheOk es key c) :
    CacheOk es key c' :=
  fun k off hm => h k off (hs.subset hm)

theorem cacheOk_nil (es : List Epoch) (key : Key) : CacheOk es key [] := by
  intro k off h; cases h

/-- **the offset cache is harmless under a sound keying**: an object the epoch's index and CAR resolve is returned,
whatever the raw-object cache and the offset cache contain, and the offset cache stays sound -/
theorem getNode_ok (es : List Epoch) (key : Key) (raw : Cid → Bool) (cache : Cache) (ep : Epoch) (c : Cid)
    (hk : KeyOk es key) (hc : CacheOk es key cache) (hep : ep ∈ es) (hh : has ep c = true) :
    (getNode key raw cache ep c).1 = true ∧ CacheOk es key (getNode key raw cache ep c).2 := by
  unfold getNode
  by_cases hr : raw c = true
  · simp [hr, hc]
  · simp only [hr, Bool.false_eq_true, if_false]
    unfold has at hh
    cases hi : idx ep c with
    | none => rw [hi] at hh; cases hh
    | some off' =>
      rw [hi] at hh
      simp only at hh
      cases hg : cacheGet cache (key ep.num c) with
      | some off =>
        have hm := cacheGet_some cache _ off hg
        have : off' = off := hc _ off hm ep hep c rfl off' hi
        subst this
        exact ⟨hh, hc⟩
      | none =>
        refine ⟨hh, ?_⟩
        intro k off hm ep2 hep2 c2 hkey off2 hi2
        rcases List.mem_cons.mp hm with heq | hm'
        · injection heq with h1 h2
          rw [h2]
          exact (hk ep hep ep2 hep2 c c2 off' off2 (by rw [hkey, h1]) hi hi2).symm
        · exact hc k off hm' ep2 hep2 c2 hkey off2 hi2

theorem getNodes_ok (es : List Epoch) (key : Key) (raw : Cid → Bool) (ep : Epoch) (hk : KeyOk es key) (hep : ep ∈ es) :
    ∀ (cs : List Cid) (cache : Cache), CacheOk es key cache → (∀ c ∈ cs, has ep c = true) →
      (getNodes key raw cache ep cs).1.all id = true ∧ CacheOk es key (getNodes key raw cache ep cs).2 := by
  intro cs
  induction cs with
  | nil => intro cache hc _; exact ⟨rfl, hc⟩
  | cons c cs ih =>
    intro cache hc hh
    obtain ⟨h1, h2⟩ := getNode_ok es key raw cache ep c hk hc hep (hh c List.mem_cons_self)
    obtain ⟨h3, h4⟩ := ih _ h2 (fun c' hc' => hh c' (List.mem_cons_of_mem _ hc'))
    simp only [getNodes, List.all_cons, h1, h3, id, Bool.and_self]
    exact ⟨trivial, h4⟩

theorem eq_of_num_eq (es : List Epoch) (hu : UniqueNums es) (a b : Epoch) (ha : a ∈ es) (hb : b ∈ es) (h : a.num = b.num) : a = b :=
  nodup_map_inj (fun e : Epoch => e.num) es hu a ha b hb h

/-- the repaired key is sound for every set of epochs with distinct numbers -/
theorem keyOk_pair (es : List Epoch) (hu : UniqueNums es) : KeyOk es pairKey := by
  intro ep hep ep2 hep2 c c2 off off2 hkey h1 h2
  simp only [pairKey, Prod.mk.injEq] at hkey
  have := eq_of_num_eq es hu ep ep2 hep hep2 hkey.1
  subst this
  rw [hkey.2, h2] at h1
  injection h1 with h1; exact h1.symm

/-- the CID-only key is sound only when no CID is stored at different offsets in two loaded epochs -/
theorem keyOk_cid (es : List Epoch) (hn : NoSharedCid es) : KeyOk es cidKey := by
  intro ep hep ep2 hep2 c c2 off off2 hkey h1 h2
  simp only [cidKey, Prod.mk.injEq, true_and] at hkey
  subst hkey
  exact hn ep hep ep2 hep2 c off off2 h1 h2

/-! ## the handlers over the store -/

/-- the first transaction (in merge order) whose node or frames could not be fetched decides: nil slot → panic,
frame → "Internal error" -/
def txOutcome : List (Bool × Bool) → Option (Resp BlockResp)
  | [] => none
  | (false, _) :: _ => some .panic
  | (true, false) :: _ => some .internal
  | (true, true) :: rest => txOutcome rest

def parentCids (ep : Epoch) (b : Block) : List Cid :=
  if wantsParent ep b then
    match findBlock ep b.parent with
    | none => []
    | some pb => pb.cid :: (match pb.entries.getLast? with | some e => [e.cid] | none => [])
  else []

/-- the transaction goroutines and the later parse, transaction by transaction: node, then its continuation frames -/
def fetchTxs (key : Key) (raw : Cid → Bool) (ep : Epoch) : Cache → List Tx → List (Bool × Bool) × Cache
  | cache, [] => ([], cache)
  | cache, t :: ts =>
    let r := getNode key raw cache ep t.cid
    let f := getNodes key raw r.2 ep t.frames
    let rest := fetchTxs key raw ep f.2 ts
    ((r.1, f.1.all id) :: rest.1, rest.2)

/-- every CID the handler fetches for a block -/
def blockCids (ep : Epoch) (b : Block) : List Cid :=
  b.cid :: (b.entries.map (·.cid) ++ ((blockTxs b).flatMap (fun t => t.cid :: t.frames) ++ parentCids ep b))

/-- `getBlock` with every object fetched through `getNode` (block, entries, transactions with their frames, parent
block and its last entry — one of the orders the goroutines can run in; by `getNode_ok` the order is immaterial) -/
def getBlockS (key : Key) (raw : Cid → Bool) (S : SortFn) (σ : Sched) (cache : Cache) (es : List Epoch) (slot : Nat) :
    Resp BlockResp × Cache :=
  match lookupEpoch es (epochOf slot) with
  | none => (.epochUnavailable (epochOf slot), cache)
  | some ep =>
    match findBlock ep slot with
    | none => (.null, cache)
    | some b =>
      let r0 := getNode key raw cache ep b.cid
      let r1 := getNodes key raw r0.2 ep (b.entries.map (·.cid))
      let r2 := fetchTxs key raw ep r1.2 (blockTxs b)
      let r3 := getNodes key raw r2.2 ep (parentCids ep b)
      let res : Resp BlockResp :=
        if !r0.1 then .internal
        else if !(r1.1.all id) then .internal
        else match txOutcome r2.1 with
          | some bad => bad
          | none => if !(r3.1.all id) then .internal else blockAnswer S σ ep b
      (res, r3.2)

/-- `getTransaction` with every object fetched through `getNode` -/
def getTransactionS (key : Key) (raw : Cid → Bool) (cache : Cache) (es : List Epoch) (r : Res Nat JErr) (sig : Nat) :
    Resp TxResp × Cache :=
  if es.isEmpty then (.internal, cache) else
  match findResult (searchEps es sig) r with
  | .notFound => (.null, cache)
  | .internal _ => (.internal, cache)
  | .found e =>
    match lookupEpoch es e with
    | none => (.epochUnavailable e, cache)
    | some ep =>
      match findTx ep sig with
      | none => (.null, cache)
      | some t =>
        let r := getNodes key raw cache ep (t.cid :: t.frames)
        (if r.1.all id then txAnswer ep sig else .internal, r.2)

/-! ## well-formed archives -/

/-- every object a handler fetches for a block of the epoch resolves through the epoch's index and CAR (C01) -/
def StoreOk (ep : Epoch) : Prop :=
  ∀ b ∈ ep.blocks, has ep b.cid = true ∧
    ∀ e ∈ b.entries, has ep e.cid = true ∧ ∀ t ∈ e.txs, has ep t.cid = true ∧ ∀ f ∈ t.frames, has ep f = true

/-- a complete epoch archive: distinct slots, all in the epoch; the parent of a block is archived whenever the
handler looks for it in the same epoch -/
structure EpochOk (ep : Epoch) : Prop where
  slots : (ep.blocks.map (·.slot)).Nodup
  inEpoch : ∀ b ∈ ep.blocks, epochOf b.slot = ep.num
  parent : ∀ b ∈ ep.blocks, wantsParent ep b = true → ∃ pb ∈ ep.blocks, pb.slot = b.parent

theorem route (es : List Epoch) (ep : Epoch) (hu : UniqueNums es) (hep : ep ∈ es) (slot : Nat)
    (h : epochOf slot = ep.num) : lookupEpoch es (epochOf slot) = some ep := by
  rw [h]; exact lookupEpoch_of_mem es ep hu hep

/-- `previousBlockhash` is always computed for a block of a complete epoch -/
theorem prevHash_ok (ep : Epoch) (b : Block) (hok : EpochOk ep) (hb : b ∈ ep.blocks) :
    ∃ prev, prevHash ep b = .ok prev ∧
      (wantsParent ep b = false → prev = if b.slot = 0 then some (lastHash b) else none) ∧
      (wantsParent ep b = true → ∀ pb ∈ ep.blocks, pb.slot = b.parent → ∀ e, pb.entries.getLast? = some e →
        prev = some (hash32 e.hash)) := by
  unfold prevHash
  by_cases hw : wantsParent ep b = true
  · obtain ⟨pb, hpb, hps⟩ := hok.parent b hb hw
    have hf : findBlock ep b.parent = some pb := by rw [← hps]; exact findBlock_of_mem ep pb hok.slots hpb
    have huniq : ∀ pb' ∈ ep.blocks, pb'.slot = b.parent → pb' = pb := fun pb' hpb' hps' =>
      nodup_map_inj (fun x : Block => x.slot) ep.blocks hok.slots pb' hpb' pb hpb (by rw [hps', hps])
    simp only [hw, if_true, hf]
    -- with or without a last entry: the parent found is the only block with that slot, so `he` speaks of it
    cases hl : pb.entries.getLast? <;> refine ⟨_, rfl, nofun, fun _ pb' hpb' hps' e he => ?_⟩ <;>
      rw [huniq pb' hpb' hps', hl] at he <;> cases he
    rfl
  · have hw' : wantsParent ep b = false := by simpa using hw
    simp only [hw', Bool.false_eq_true, if_false]
    exact ⟨_, rfl, fun _ => rfl, fun h => by cases h⟩


theorem mem_numbersDesc (es : List Epoch) (n : Nat) : n ∈ numbersDesc es ↔ ∃ ep ∈ es, ep.num = n := by
  unfold numbersDesc
  rw [(sortDesc_perm _).mem_iff]
  simp [List.mem_map]

theorem mem_searchEps_of_mem (es : List Epoch) (ep : Epoch) (sig : Nat) (hu : UniqueNums es) (hep : ep ∈ es) :
    (ep.num, kindOf ep sig) ∈ searchEps es sig := by
  unfold searchEps
  refine List.mem_map.mpr ⟨ep.num, (mem_numbersDesc es ep.num).mpr ⟨ep, hep, rfl⟩, ?_⟩
  rw [lookupEpoch_of_mem es ep hu hep]

theorem mem_searchEps (es : List Epoch) (sig n : Nat) (k : Kind) (h : (n, k) ∈ searchEps es sig) :
    ∃ ep ∈ es, ep.num = n ∧ k = kindOf ep sig := by
  unfold searchEps at h
  obtain ⟨m, hm, heq⟩ := List.mem_map.mp h
  injection heq with h1 h2
  subst h1
  obtain ⟨ep0, hep0, hn0⟩ := (mem_numbersDesc es m).mp hm
  cases hl : lookupEpoch es m with
  | none =>
    exfalso
    unfold lookupEpoch at hl
    have := List.find?_eq_none.mp hl ep0 hep0
    simp [hn0] at this
  | some ep =>
    rw [hl] at h2
    obtain ⟨h3, h4⟩ := lookupEpoch_some es m ep hl
    exact ⟨ep, h3, h4, h2.symm⟩

theorem searchEps_length (es : List Epoch) (sig : Nat) : (searchEps es sig).length = es.length := by
  simp [searchEps, numbersDesc, (sortDesc_perm _).length_eq]

theorem kindOf_hit (ep : Epoch) (sig : Nat) : kindOf ep sig = .hit ↔ (findTx ep sig).isSome = true := by
  unfold kindOf
  split <;> simp_all


theorem txOutcome_all_true (l : List (Bool × Bool)) (h : ∀ p ∈ l, p = (true, true)) : txOutcome l = none := by
  induction l with
  | nil => rfl
  | cons p l ih =>
    have hp := h p List.mem_cons_self
    subst hp
    simp only [txOutcome]
    exact ih (fun q hq => h q (List.mem_cons_of_mem _ hq))

theorem fetchTxs_ok (es : List Epoch) (key : Key) (raw : Cid → Bool) (ep : Epoch) (hk : KeyOk es key) (hep : ep ∈ es) :
    ∀ (ts : List Tx) (cache : Cache), CacheOk es key cache →
      (∀ t ∈ ts, has ep t.cid = true ∧ ∀ f ∈ t.frames, has ep f = true) →
      (∀ p ∈ (fetchTxs key raw ep cache ts).1, p = (true, true)) ∧ CacheOk es key (fetchTxs key raw ep cache ts).2 := by
  intro ts
  induction ts with
  | nil =>
    intro cache hc _
    refine ⟨?_, hc⟩
    intro p hp
    simp [fetchTxs] at hp
  | cons t ts ih =>
    intro cache hc hh
    obtain ⟨ht, hf⟩ := hh t List.mem_cons_self
    obtain ⟨h1, h2⟩ := getNode_ok es key raw cache ep t.cid hk hc hep ht
    obtain ⟨h3, h4⟩ := getNodes_ok es key raw ep hk hep t.frames _ h2 hf
    obtain ⟨h5, h6⟩ := ih _ h4 (fun t' ht' => hh t' (List.mem_cons_of_mem _ ht'))
    simp only [fetchTxs]
    refine ⟨?_, h6⟩
    intro p hp
    rcases List.mem_cons.mp hp with rfl | hp'
    · rw [h1, h3]
    · exact h5 p hp'

theorem parentCids_ok (ep : Epoch) (b : Block) (hs : StoreOk ep) : ∀ c ∈ parentCids ep b, has ep c = true := by
  intro c hc
  unfold parentCids at hc
  split at hc
  · cases hf : findBlock ep b.parent with
    | none => rw [hf] at hc; cases hc
    | some pb =>
      rw [hf] at hc
      have hpb : pb ∈ ep.blocks := List.mem_of_find?_eq_some hf
      obtain ⟨h1, h2⟩ := hs pb hpb
      rcases List.mem_cons.mp hc with rfl | hc'
      · exact h1
      · cases hl : pb.entries.getLast? with
        | none => rw [hl] at hc'; cases hc'
        | some e =>
          rw [hl] at hc'
          simp only [List.mem_singleton] at hc'
          subst hc'
          exact (h2 e (List.mem_of_getLast? hl)).1
  · cases hc



end Rpc
