/-!
Readers of an on-disk file as programs whose only access to the file is `read off len`: `Prog` is the free monad over that
one operation, `readAt` the contract of `io.ReaderAt` / `io.ReadFull` the Go readers rely on (all `len` bytes or an error),
`run` interprets a program on a file and answers the fixed error "short read" when a range is not inside it.
`truncation_exact`: cutting the file at or after the high-water mark `hw` of the run changes nothing, before it gives
"short read"; `truncation_safe` is the corollary "same answer or an error".
-/
namespace RA

inductive Prog (α : Type) where
  | pure : α → Prog α
  | fail : String → Prog α
  | read : (off len : Nat) → (List UInt8 → Prog α) → Prog α

inductive Res (α : Type) where
  | ok : α → Res α
  | err : String → Res α
deriving DecidableEq

def readAt (f : List UInt8) (off len : Nat) : Option (List UInt8) :=
  if off + len ≤ f.length then some ((f.drop off).take len) else none

def run : Prog α → List UInt8 → Res α
  | .pure a, _ => .ok a
  | .fail e, _ => .err e
  | .read off len k, f =>
    match readAt f off len with
    | some bs => run (k bs) f
    | none => .err "short read"

/-- end of the furthest byte range the program asks for when run on `f` (including a request that fails) -/
def hw {α : Type} : Prog α → List UInt8 → Nat
  | .pure _, _ => 0
  | .fail _, _ => 0
  | .read off len k, f =>
    match readAt f off len with
    | some bs => max (off + len) (hw (k bs) f)
    | none => off + len

theorem hw_read_leaf {α : Type} {off len : Nat} {k : List UInt8 → Prog α} {f : List UInt8} (hk : ∀ bs, hw (k bs) f = 0) :
    hw (.read off len k) f = off + len := by
  simp only [hw]
  cases readAt f off len with
  | none => rfl
  | some bs => exact (congrArg (max (off + len)) (hk bs)).trans (Nat.max_eq_left (Nat.zero_le _))

/-! Lower bounds for `hw` of a run that succeeds: for a `read` (the bound is reached here, or further down) and for an
`if … then .fail` guard.  There is none for `Prog.bind`: only a reader written without it (`btOpenP`) can use them. -/

theorem le_hw_of_read {α : Type} {n off len : Nat} {k : List UInt8 → Prog α} {f : List UInt8} {a : α}
    (hk : ∀ bs, run (k bs) f = .ok a → n ≤ max (off + len) (hw (k bs) f)) (h : run (.read off len k) f = .ok a) :
    n ≤ hw (.read off len k) f := by
  simp only [run, hw] at h ⊢
  cases hr : readAt f off len with
  | none => rw [hr] at h; cases h
  | some bs => rw [hr] at h; exact hk bs h

theorem le_hw_last {α : Type} {n off len : Nat} {k : List UInt8 → Prog α} {f : List UInt8} {a : α}
    (hk : ∀ bs, run (k bs) f = .ok a → n ≤ off + len) : run (.read off len k) f = .ok a → n ≤ hw (.read off len k) f :=
  le_hw_of_read fun bs h => Nat.le_trans (hk bs h) (Nat.le_max_left _ _)

theorem le_hw_read {α : Type} {n off len : Nat} {k : List UInt8 → Prog α} {f : List UInt8} {a : α}
    (hk : ∀ bs, run (k bs) f = .ok a → n ≤ hw (k bs) f) : run (.read off len k) f = .ok a → n ≤ hw (.read off len k) f :=
  le_hw_of_read fun bs h => Nat.le_trans (hk bs h) (Nat.le_max_right _ _)

theorem le_hw_guard {α : Type} {n : Nat} {c : Prop} [Decidable c] {e : String} {p : Prog α} {f : List UInt8} {a : α}
    (hp : run p f = .ok a → n ≤ hw p f) (h : run (if c then .fail e else p) f = .ok a) :
    n ≤ hw (if c then .fail e else p) f := by
  by_cases hc : c
  · rw [if_pos hc] at h; cases h
  · rw [if_neg hc] at h ⊢; exact hp h

theorem readAt_take_of_le (f : List UInt8) (cut off len : Nat) (h : off + len ≤ cut) :
    readAt (f.take cut) off len = readAt f off len := by
  unfold readAt
  simp only [List.length_take]
  by_cases hf : off + len ≤ f.length
  · have h1 : off + len ≤ min cut f.length := by omega
    simp only [h1, hf, if_true, Option.some.injEq]
    rw [List.drop_take, List.take_take]
    congr 1
    omega
  · have h1 : ¬ off + len ≤ min cut f.length := by omega
    simp [h1, hf]

theorem readAt_take_none (f : List UInt8) (cut off len : Nat) (h : cut < off + len) :
    readAt (f.take cut) off len = none := by
  unfold readAt
  simp only [List.length_take]
  have h1 : ¬ off + len ≤ min cut f.length := by omega
  simp [h1]

/-- **exact truncation law**: a cut at or after the high-water mark changes nothing; a cut before it makes the run
    fail with a short read (it never turns into another answer) -/
theorem truncation_exact {α : Type} (p : Prog α) (f : List UInt8) (cut : Nat) :
    (hw p f ≤ cut → run p (f.take cut) = run p f) ∧
    (cut < hw p f → cut ≤ f.length → run p (f.take cut) = .err "short read") := by
  induction p with
  | pure a => exact ⟨fun _ => rfl, fun h => by simp [hw] at h⟩
  | fail e => exact ⟨fun _ => rfl, fun h => by simp [hw] at h⟩
  | read off len k ih =>
    simp only [hw, run]
    by_cases h1 : off + len ≤ cut
    · rw [readAt_take_of_le f cut off len h1]
      cases readAt f off len with
      | none => exact ⟨fun _ => rfl, fun h => absurd h (Nat.not_lt.mpr h1)⟩
      | some bs =>
        dsimp only
        exact ⟨fun h => (ih bs).1 (by omega), fun h hc => (ih bs).2 (by omega) hc⟩
    · rw [readAt_take_none f cut off len (Nat.lt_of_not_le h1)]
      cases readAt f off len with
      | none => exact ⟨fun _ => rfl, fun _ _ => rfl⟩
      | some bs =>
        dsimp only
        exact ⟨fun h => absurd h (by omega), fun _ _ => rfl⟩

/-- cutting the file anywhere gives the same answer or an error -/
theorem truncation_safe (p : Prog α) (f : List UInt8) (cut : Nat) (hc : cut ≤ f.length) :
    run p (f.take cut) = run p f ∨ ∃ e, run p (f.take cut) = .err e := by
  by_cases h : hw p f ≤ cut
  · exact .inl ((truncation_exact p f cut).1 h)
  · exact .inr ⟨_, (truncation_exact p f cut).2 (Nat.lt_of_not_le h) hc⟩

end RA
