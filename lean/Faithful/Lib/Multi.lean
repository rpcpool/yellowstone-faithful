namespace Multi

abbrev Bytes := List UInt8

/-- `bytes.Reader.ReadAt` / `io.SectionReader.ReadAt` on an in-memory segment:
    returns the bytes read and whether the error was io.EOF. -/
def readSeg (seg : Bytes) (off len : Nat) : Bytes × Bool :=
  if off ≥ seg.length then ([], true)
  else ((seg.drop off).take len, decide (seg.length - off < len))

/-- `MultiReaderAt.ReadAt` as a fold over the segments. `base` = m.offsets[i]. Returns (bytes, eof). -/
def go : List Bytes → (base off remaining : Nat) → (acc : Bytes) → (reachedEnd : Bool) → Bytes × Bool
  | [], _, _, remaining, acc, reachedEnd => (acc, decide (0 < remaining) && reachedEnd)
  | seg :: rest, base, off, remaining, acc, reachedEnd =>
    if off < base then go rest (base + seg.length) off remaining acc reachedEnd
    else
      let isLast := rest.isEmpty
      let toRead := if isLast then remaining else min (base + seg.length - off) remaining
      let r := readSeg seg (off - base) toRead
      let n := r.1.length
      let remaining' := remaining - n
      let reachedEnd' := reachedEnd || (r.2 && isLast)
      let off' := if n = toRead then off + n else off
      if remaining' = 0 then (acc ++ r.1, false)
      else go rest (base + seg.length) off' remaining' (acc ++ r.1) reachedEnd'

theorem readSeg_length_le (seg : Bytes) (off len : Nat) : (readSeg seg off len).1.length ≤ len := by
  unfold readSeg; split <;> simp; omega

def readAt (segs : List Bytes) (off len : Nat) : Bytes × Bool := go segs 0 off len [] false

def want (segs : List Bytes) (off len : Nat) : Bytes := (segs.flatten.drop off).take len

theorem want_length_le (segs : List Bytes) (off len : Nat) : (want segs off len).length ≤ len := by
  unfold want; simp [List.length_take]; omega

theorem readSeg_fst (seg : Bytes) (off len : Nat) : (readSeg seg off len).1 = (seg.drop off).take len := by
  unfold readSeg; split
  · rw [List.drop_of_length_le (by omega), List.take_nil]
  · rfl

theorem readSeg_snd (seg : Bytes) (off : Nat) {len : Nat} (h : 0 < len) : (readSeg seg off len).2 = decide (seg.length - off < len) := by
  unfold readSeg; split
  · exact (decide_eq_true (by omega)).symm
  · rfl

theorem want_nil (off len : Nat) : want [] off len = [] := by simp [want]

theorem want_zero (segs : List Bytes) (off : Nat) : want segs off 0 = [] := List.take_zero

theorem want_cons (seg : Bytes) (rest : List Bytes) (off len : Nat) :
    want (seg :: rest) off len = (seg.drop off).take len ++ want rest (off - seg.length) (len - (seg.length - off)) := by
  simp only [want, List.flatten_cons, List.drop_append, List.take_append, List.length_drop]

theorem go_spec (segs : List Bytes) : ∀ (base o remaining : Nat) (acc : Bytes), segs ≠ [] → 0 < remaining →
    (go segs base (base + o) remaining acc false).1 = acc ++ want segs o remaining ∧
    ((go segs base (base + o) remaining acc false).2 = true ↔ (want segs o remaining).length < remaining) := by
  induction segs with
  | nil => intro _ _ _ _ hne; exact absurd rfl hne
  | cons seg rest ih =>
    intro base o rem acc _ hrem
    rw [go, if_neg (Nat.not_lt.mpr (Nat.le_add_right ..)), want_cons, Nat.add_sub_cancel_left, Nat.add_sub_add_left]
    simp only [readSeg_fst]
    by_cases hfit : rem ≤ seg.length - o
    · -- the range ends inside this segment
      have hl : ((seg.drop o).take rem).length = rem := by rw [List.length_take, List.length_drop, Nat.min_eq_left hfit]
      have hT : (if rest.isEmpty then rem else min (seg.length - o) rem) = rem := by
        split
        · rfl
        · exact Nat.min_eq_right hfit
      rw [hT, hl, Nat.sub_self, if_pos rfl, Nat.sub_eq_zero_of_le hfit, want_zero, List.append_nil, hl]
      exact ⟨rfl, by simp⟩
    · -- the segment is read to its end (it may lie before the offset altogether)
      have hlt : seg.length - o < rem := Nat.lt_of_not_le hfit
      have htake : ∀ n, seg.length - o ≤ n → (seg.drop o).take n = seg.drop o :=
        fun n hn => List.take_of_length_le (by rw [List.length_drop]; exact hn)
      cases rest with
      | nil =>
        simp only [List.isEmpty_nil, if_true, htake rem (Nat.le_of_lt hlt), List.length_drop, readSeg_snd _ _ hrem, hlt, decide_true,
          Bool.and_true, Bool.or_true, want_nil, List.append_nil, go]
        rw [if_neg (by omega)]
        exact ⟨rfl, by simp; omega⟩
      | cons s2 r2 =>
        simp only [List.isEmpty_cons, Bool.false_eq_true, if_false, Bool.and_false, Bool.or_false, Nat.min_eq_left (Nat.le_of_lt hlt),
          htake _ (Nat.le_refl _), htake rem (Nat.le_of_lt hlt), List.length_drop, if_true]
        obtain ⟨h1, h2⟩ := ih (base + seg.length) (o - seg.length) (rem - (seg.length - o)) (acc ++ seg.drop o) (List.cons_ne_nil _ _)
          (by omega)
        rw [if_neg (by omega), show base + o + (seg.length - o) = base + seg.length + (o - seg.length) by omega, h1, h2,
          List.append_assoc, List.length_append, List.length_drop]
        exact ⟨rfl, by omega⟩
theorem readAt_spec (segs : List Bytes) (off len : Nat) (hne : segs ≠ []) (hlen : 0 < len) :
    (readAt segs off len).1 = want segs off len ∧
    ((readAt segs off len).2 = true ↔ (want segs off len).length < len) := by
  have := go_spec segs 0 off len [] hne hlen
  rw [Nat.zero_add, List.nil_append] at this
  exact this

end Multi
