import Faithful.Lib.FirstSuccess

/-!
`FirstSuccess` (/repo/first-success.go) as a transition system, live-context path only
(the property says "while the request context is live": `ctx.Err() == nil` and `ctx.Done()` never fires, so the
`if ctx.Err() != nil` branch and the `case <-ctx.Done()` arm of the select are not modelled).

Go source, line by line → model:

* `results := make(chan result, len(fns))`                      buffered FIFO `buf`, capacity `c.n`
* `if concurrency > 0 { wg.SetLimit(concurrency) }`             `semCap`: `some limit` iff `limit > 0`, else no semaphore
                                                                (0 and negatives: NO limit — SetLimit is not called)
* `for _, fn := range fns { wg.Go(...) }`                       action `start`: the MAIN goroutine hands out the jobs in index
    errgroup.Go: `g.sem <- token{}` ; `wg.Add(1)` ; `go ...`      order; it blocks while `limit` jobs hold a semaphore token.
                                                                Main does not read a single result before every job was started.
* job goroutine: `val, err := fn(ctx)` ; `results <- …`         action `send j` (guard: buffer not full; `C18.no_send_blocks` shows
                                                                the guard always holds).  The job's outcome is `c.out j`.
* errgroup `done()`: `<-g.sem` then `g.wg.Done()`               actions `release j` (semaphore token back) and `wgdone j`
* `go func() { wg.Wait(); close(results) }()`                   action `fork` (main leaves the spawn loop, closer exists),
                                                                action `close` (guard: every job did wg.Done)
* `for res := range results { … }`                              actions `recv` (first success → return; error appended; `break`
                                                                at `len(errs) == len(fns)`) and `recvClosed` (closed and drained)

`log` is a ghost field: the job indices in the order of their sends.  A schedule is any list of actions; `run` applies
them (`none` as soon as one is not enabled), so "for every schedule" = "for every list of actions accepted by `run`".

After `end FSys` the file also holds a second, small model: `FindEpoch`, the caller `findEpochNumberFromSignature`
(what a job answers, how the result is classified); its theorems are in `Properties/C18.lean`.
-/

namespace FSys
open FS

deriving instance BEq, Hashable, Repr for FS.Out

structure Cfg (V E : Type) where
  n : Nat                  -- len(fns)
  limit : Int              -- the `concurrency` argument
  out : Nat → Out V E      -- what fn_j returns

inductive Res (V E : Type) where
  | ok : V → Res V E
  | err : List E → Res V E
deriving BEq, Hashable, Repr, DecidableEq

inductive Main (V E : Type) where
  | spawning                          -- in the `for … wg.Go` loop
  | collecting (errs : List E)        -- in the `for res := range results` loop
  | done (r : Res V E)                -- returned
deriving BEq, Hashable, Repr, DecidableEq

structure State (V E : Type) where
  next : Nat                 -- jobs 0..next-1 were handed to wg.Go
  running : List Nat         -- fn running / result not yet sent (holds a semaphore token)
  sentq : List Nat           -- result sent, token not yet released
  relq : List Nat            -- token released, wg.Done not yet called
  buf : List (Out V E)       -- the channel buffer
  log : List Nat             -- ghost: jobs in send order
  main : Main V E
  closed : Bool
deriving BEq, Hashable, Repr

inductive Act where
  | start | send (j : Nat) | release (j : Nat) | wgdone (j : Nat) | fork | close | recv | recvClosed
deriving BEq, Repr

variable {V E : Type}

def init : State V E :=
  { next := 0, running := [], sentq := [], relq := [], buf := [], log := [], main := .spawning, closed := false }

/-- `wg.SetLimit(concurrency)` is only called for `concurrency > 0` -/
def semCap (c : Cfg V E) : Option Nat := if c.limit > 0 then some c.limit.toNat else none

def semFree (c : Cfg V E) (s : State V E) : Bool :=
  match semCap c with
  | none => true
  | some L => s.running.length + s.sentq.length < L

def step (c : Cfg V E) (s : State V E) : Act → Option (State V E)
  | .start =>
    match s.main with
    | .spawning =>
      if s.next < c.n ∧ semFree c s = true then
        some { s with next := s.next + 1, running := s.running ++ [s.next] }
      else none
    | _ => none
  | .send j =>
    if j ∈ s.running ∧ s.buf.length < c.n then
      some { s with running := s.running.erase j, sentq := s.sentq ++ [j],
                    buf := s.buf ++ [c.out j], log := s.log ++ [j] }
    else none
  | .release j =>
    if j ∈ s.sentq then some { s with sentq := s.sentq.erase j, relq := s.relq ++ [j] } else none
  | .wgdone j =>
    if j ∈ s.relq then some { s with relq := s.relq.erase j } else none
  | .fork =>
    match s.main with
    | .spawning => if s.next = c.n then some { s with main := .collecting [] } else none
    | _ => none
  | .close =>
    match s.main with
    | .spawning => none
    | _ =>
      if s.closed = false ∧ s.next = c.n ∧ s.running = [] ∧ s.sentq = [] ∧ s.relq = [] then
        some { s with closed := true }
      else none
  | .recv =>
    match s.main, s.buf with
    | .collecting _, .ok v :: rest => some { s with buf := rest, main := .done (.ok v) }
    | .collecting errs, .err e :: rest =>
      some { s with buf := rest,
                    main := if (errs ++ [e]).length = c.n then .done (.err (errs ++ [e])) else .collecting (errs ++ [e]) }
    | _, _ => none
  | .recvClosed =>
    match s.main, s.buf with
    | .collecting errs, [] => if s.closed = true then some { s with main := .done (.err errs) } else none
    | _, _ => none

def run (c : Cfg V E) : State V E → List Act → Option (State V E)
  | s, [] => some s
  | s, a :: as => match step c s a with
    | some s' => run c s' as
    | none => none

/-- reachable = end state of some schedule from the initial state -/
def Reach (c : Cfg V E) (s : State V E) : Prop := ∃ sched, run c init sched = some s

theorem run_induct (c : Cfg V E) (P : State V E → Prop)
    (hstep : ∀ s a s', P s → step c s a = some s' → P s') :
    ∀ sched s s', P s → run c s sched = some s' → P s' := by
  intro sched
  induction sched with
  | nil => intro s s' hs h; simp [run] at h; subst h; exact hs
  | cons a as ih =>
    intro s s' hs h
    simp only [run] at h
    cases hst : step c s a with
    | none => rw [hst] at h; cases h
    | some s1 => rw [hst] at h; exact ih s1 s' (hstep s a s1 hs hst) h

theorem run_append (c : Cfg V E) (s : State V E) (l1 l2 : List Act) :
    run c s (l1 ++ l2) = (run c s l1).bind (fun s' => run c s' l2) := by
  induction l1 generalizing s with
  | nil => simp [run]
  | cons a as ih =>
    simp only [List.cons_append, run]
    cases step c s a with
    | none => simp
    | some s1 => exact ih s1

/-- `step` as a relation: one constructor per enabled branch, the guards as `step` tests them -/
inductive Step (c : Cfg V E) (s : State V E) : Act → State V E → Prop
  | start : s.main = .spawning → s.next < c.n ∧ semFree c s = true →
      Step c s .start { s with next := s.next + 1, running := s.running ++ [s.next] }
  | send (j : Nat) : j ∈ s.running ∧ s.buf.length < c.n →
      Step c s (.send j) { s with running := s.running.erase j, sentq := s.sentq ++ [j],
                                  buf := s.buf ++ [c.out j], log := s.log ++ [j] }
  | release (j : Nat) : j ∈ s.sentq → Step c s (.release j) { s with sentq := s.sentq.erase j, relq := s.relq ++ [j] }
  | wgdone (j : Nat) : j ∈ s.relq → Step c s (.wgdone j) { s with relq := s.relq.erase j }
  | fork : s.main = .spawning → s.next = c.n → Step c s .fork { s with main := .collecting [] }
  | close : s.closed = false ∧ s.next = c.n ∧ s.running = [] ∧ s.sentq = [] ∧ s.relq = [] → ¬ s.main = .spawning →
      Step c s .close { s with closed := true }
  | recvOk (errs : List E) (v : V) (rest : List (Out V E)) : s.buf = .ok v :: rest → s.main = .collecting errs →
      Step c s .recv { s with buf := rest, main := .done (.ok v) }
  | recvErr (errs : List E) (e : E) (rest : List (Out V E)) : s.buf = .err e :: rest → s.main = .collecting errs →
      Step c s .recv { s with buf := rest, main := if (errs ++ [e]).length = c.n then .done (.err (errs ++ [e]))
                                                   else .collecting (errs ++ [e]) }
  | recvClosed (errs : List E) : s.buf = [] → s.main = .collecting errs → s.closed = true →
      Step c s .recvClosed { s with main := .done (.err errs) }

theorem Step.of_step {c : Cfg V E} {s s' : State V E} {a : Act} (h : step c s a = some s') : Step c s a s' := by
  revert h
  fun_cases step c s a <;> intro h <;> cases h <;> constructor <;> assumption

/-- what `main` knows about the arrival sequence `arr` (= `log.map out`), by its program point: while spawning nothing
has been read; while collecting, the errors read so far followed by the buffer; after a success, the arrivals up to it
were errors; after the error return, all `n` arrivals were errors -/
def MainP (n next : Nat) (arr buf : List (Out V E)) (closed : Bool) : Main V E → Prop
  | .spawning => buf = arr ∧ closed = false
  | .collecting errs => next = n ∧ arr = errs.map Out.err ++ buf
  | .done (.ok v) => next = n ∧ ∃ (pre : List E) (post : List (Out V E)), arr = pre.map Out.err ++ Out.ok v :: post
  | .done (.err es) => next = n ∧ arr = es.map Out.err ∧ es.length = n

/-- what the main goroutine knows, in terms of the arrival sequence `log.map out` -/
def MainInv (c : Cfg V E) (s : State V E) : Prop :=
  MainP c.n s.next (s.log.map c.out) s.buf s.closed s.main

structure Inv (c : Cfg V E) (s : State V E) : Prop where
  next_le : s.next ≤ c.n
  perm : (s.running ++ s.log).Perm (List.range s.next)
  buf_le : s.buf.length ≤ s.log.length
  sem : ∀ L, semCap c = some L → s.running.length + s.sentq.length ≤ L
  closed_imp : s.closed = true → s.next = c.n ∧ s.running = []
  main_inv : MainInv c s

theorem Inv.len {c : Cfg V E} {s : State V E} (h : Inv c s) : s.running.length + s.log.length = s.next := by
  have := h.perm.length_eq
  simpa using this

theorem inv_init (c : Cfg V E) : Inv c (init : State V E) := by
  refine ⟨Nat.zero_le _, ?_, ?_, ?_, ?_, ?_⟩
  · simp [init]
  · simp [init]
  · intro L _; simp [init]
  · intro h; simp [init] at h
  · simp [MainInv, MainP, init]

theorem erase_len {j : Nat} {l : List Nat} (h : j ∈ l) : (l.erase j).length + 1 = l.length := by
  have h1 := List.length_erase_of_mem h
  have h2 := List.length_pos_of_mem h
  omega

section
variable {n next : Nat} {arr buf : List (Out V E)} {cl : Bool} {m : Main V E}

theorem MainP.push (o : Out V E) (hlt : arr.length < n) (h : MainP n next arr buf cl m) :
    MainP n next (arr ++ [o]) (buf ++ [o]) cl m := by
  match m, h with
  | .spawning, h => exact ⟨by rw [h.1], h.2⟩
  | .collecting errs, h => exact ⟨h.1, by rw [h.2, List.append_assoc]⟩
  | .done (.ok v), ⟨h1, pre, post, h2⟩ => exact ⟨h1, pre, post ++ [o], by rw [h2]; simp⟩
  | .done (.err es), ⟨_, h2, h3⟩ => rw [h2, List.length_map] at hlt; omega

theorem MainP.close (hm : ¬ m = .spawning) (h : MainP n next arr buf cl m) : MainP n next arr buf true m := by
  match m, h with
  | .spawning, _ => exact absurd rfl hm
  | .collecting _, h | .done (.ok _), h | .done (.err _), h => exact h
end

theorem inv_step (c : Cfg V E) (s : State V E) (a : Act) (s' : State V E)
    (hi : Inv c s) (hs : step c s a = some s') : Inv c s' := by
  have hlen := hi.len
  have hn := hi.next_le
  have hmi : MainP c.n s.next (s.log.map c.out) s.buf s.closed s.main := hi.main_inv
  cases Step.of_step hs with
  | start hm hg =>
    rw [hm] at hmi
    refine { hi with next_le := hg.1, perm := ?_, sem := fun L hL => ?_, closed_imp := fun hc => ?_, main_inv := ?_ }
    · show (s.running ++ [s.next] ++ s.log).Perm (List.range (s.next + 1))
      rw [List.range_succ, List.append_assoc]
      exact (List.perm_append_comm.append_left _).trans (List.append_assoc .. ▸ hi.perm.append_right _)
    · have hf := hg.2
      simp only [semFree, hL, decide_eq_true_eq] at hf
      show (s.running ++ [s.next]).length + s.sentq.length ≤ L
      rw [List.length_append, List.length_singleton]; omega
    · rw [hmi.2] at hc; cases hc
    · show MainP c.n (s.next + 1) (s.log.map c.out) s.buf s.closed s.main
      rw [hm]; exact hmi
  | send j hg =>
    obtain ⟨hj, hb⟩ := hg
    have hel := erase_len hj
    refine { hi with perm := ?_, buf_le := by simpa using hi.buf_le, sem := fun L hL => ?_,
                     closed_imp := fun hc => ?_, main_inv := ?_ }
    · show (s.running.erase j ++ (s.log ++ [j])).Perm (List.range s.next)
      rw [← List.append_assoc]
      exact (List.perm_append_singleton _ _).trans
        (((List.perm_cons_erase hj).append_right s.log).symm.trans hi.perm)
    · have := hi.sem L hL
      show (s.running.erase j).length + (s.sentq ++ [j]).length ≤ L
      rw [List.length_append, List.length_singleton]; omega
    · rw [(hi.closed_imp hc).2] at hj; cases hj
    · show MainP c.n s.next ((s.log ++ [j]).map c.out) (s.buf ++ [c.out j]) s.closed s.main
      rw [List.map_append]
      exact hmi.push _ (by rw [List.length_map]; omega)
  | release j hj =>
    have hel := erase_len hj
    refine { hi with sem := fun L hL => ?_ }
    have := hi.sem L hL
    show s.running.length + (s.sentq.erase j).length ≤ L
    omega
  | wgdone j => exact { hi with }
  | fork hm hn =>
    rw [hm] at hmi
    refine { hi with main_inv := ?_ }
    show MainP c.n s.next (s.log.map c.out) s.buf s.closed (.collecting [])
    simp [MainP, hn, hmi.1]
  | close hg hm => exact { hi with closed_imp := fun _ => ⟨hg.2.1, hg.2.2.1⟩, main_inv := hmi.close hm }
  | recvOk errs v rest hb hm =>
    rw [hm, hb] at hmi
    refine { hi with buf_le := ?_, main_inv := ⟨hmi.1, errs, rest, hmi.2⟩ }
    exact Nat.le_of_succ_le (by simpa [hb] using hi.buf_le)
  | recvErr errs e rest hb hm =>
    rw [hm, hb] at hmi
    have hll : (s.log.map c.out).length = errs.length + (rest.length + 1) := by
      rw [hmi.2]; simp
    refine { hi with buf_le := ?_, main_inv := ?_ }
    · exact Nat.le_of_succ_le (by simpa [hb] using hi.buf_le)
    · show MainP c.n s.next (s.log.map c.out) rest s.closed
        (if (errs ++ [e]).length = c.n then .done (.err (errs ++ [e])) else .collecting (errs ++ [e]))
      split
      · rename_i hfull
        -- the `n`-th error: nothing can be left in the buffer
        obtain rfl : rest = [] := List.length_eq_zero_iff.mp (by simp at hll hfull; omega)
        exact ⟨hmi.1, by rw [hmi.2]; simp, hfull⟩
      · exact ⟨hmi.1, by rw [hmi.2]; simp⟩
  | recvClosed errs hb hm hc =>
    rw [hm, hb] at hmi
    refine { hi with main_inv := ⟨hmi.1, by simpa using hmi.2, ?_⟩ }
    have : (s.log.map c.out).length = errs.length := by rw [hmi.2]; simp
    obtain ⟨h1, h2⟩ := hi.closed_imp hc
    rw [h2] at hlen
    simp at this hlen
    omega

theorem inv_reach (c : Cfg V E) (s : State V E) (h : Reach c s) : Inv c s := by
  obtain ⟨sched, hr⟩ := h
  exact run_induct c (Inv c) (fun s a s' hi hs => inv_step c s a s' hi hs) sched init s (inv_init c) hr

def Final (s : State V E) : Prop :=
  (∃ r, s.main = .done r) ∧ s.running = [] ∧ s.sentq = [] ∧ s.relq = [] ∧ s.closed = true

theorem semCap_pos (c : Cfg V E) (L : Nat) (h : semCap c = some L) : 0 < L := by
  unfold semCap at h
  split at h
  · injection h with h; omega
  · cases h

/-- a state in which no action is enabled is completely finished (no deadlock, no goroutine left behind) -/
theorem progress (c : Cfg V E) (s : State V E) (hi : Inv c s) (hno : ∀ a, step c s a = none) : Final s := by
  have hlen := hi.len
  have hmi : MainP c.n s.next (s.log.map c.out) s.buf s.closed s.main := hi.main_inv
  -- a job in one of the three queues enables its next action
  have hrun : s.running = [] := List.eq_nil_iff_forall_not_mem.mpr fun j hj => by
    have h := hno (.send j)
    have hb := hi.buf_le
    have hn := hi.next_le
    have := List.length_pos_of_mem hj
    simp [step, hj] at h
    omega
  have hsq : s.sentq = [] := List.eq_nil_iff_forall_not_mem.mpr fun j hj => by
    simpa [step, hj] using hno (.release j)
  have hrq : s.relq = [] := List.eq_nil_iff_forall_not_mem.mpr fun j hj => by
    simpa [step, hj] using hno (.wgdone j)
  cases hm : s.main with
  | spawning =>
    exfalso
    have h1 := hno .fork
    have h2 := hno .start
    simp only [step, hm] at h1 h2
    have hne : ¬ s.next = c.n := by
      intro h; rw [if_pos h] at h1; cases h1
    have hlt : s.next < c.n := by have := hi.next_le; omega
    have hfree : semFree c s = true := by
      unfold semFree
      cases hc : semCap c with
      | none => rfl
      | some L => have := semCap_pos c L hc; simp [hrun, hsq]; exact this
    rw [if_pos ⟨hlt, hfree⟩] at h2; cases h2
  | collecting errs =>
    exfalso
    rw [hm] at hmi; simp only [MainP] at hmi
    have h1 := hno .recv
    have h2 := hno .recvClosed
    have h3 := hno .close
    simp only [step, hm] at h1 h2 h3
    cases hb : s.buf with
    | cons x rest =>
      rw [hb] at h1
      cases x <;> cases h1
    | nil =>
      rw [hb] at h2
      cases hc : s.closed with
      | true => simp [hc] at h2
      | false => simp [hc, hmi.1, hrun, hsq, hrq] at h3
  | done r =>
    refine ⟨⟨r, hm⟩, hrun, hsq, hrq, ?_⟩
    have hnext : s.next = c.n := by
      rw [hm] at hmi
      cases r <;> exact hmi.1
    have h3 := hno .close
    simp only [step, hm] at h3
    cases hc : s.closed with
    | true => rfl
    | false => simp [hc, hnext, hrun, hsq, hrq] at h3

def mainW : Main V E → Nat
  | .spawning => 2
  | .collecting _ => 1
  | .done _ => 0

/-- every action lowers the sum by at least one: `start` −5 +4, `send` −4 +2 +1, `release` −2 +1, `wgdone` −1,
`recv` −1 (buffer), `fork` / the returning `recv` / `recvClosed` through `mainW` (2, 1, 0), `close` through the last bit -/
def mu (c : Cfg V E) (s : State V E) : Nat :=
  5 * (c.n - s.next) + 4 * s.running.length + 2 * s.sentq.length + s.relq.length + s.buf.length
    + mainW s.main + (if s.closed = true then 0 else 1)

theorem mu_init (c : Cfg V E) : mu c (init : State V E) = 5 * c.n + 3 := by
  simp [mu, init, mainW]

theorem step_mu (c : Cfg V E) (s : State V E) (a : Act) (s' : State V E) (hs : step c s a = some s') :
    mu c s' < mu c s := by
  -- for the three queue moves the step is `erase_len`, right to left: `l.length` becomes `(l.erase j).length + 1`
  cases Step.of_step hs with
  | start hm hg => have := hg.1; simp [mu, hm]; omega
  | send j hg => simp +arith [mu, ← erase_len hg.1]
  | release j hg => simp +arith [mu, ← erase_len hg]
  | wgdone j hg => simp +arith [mu, ← erase_len hg]
  | fork hm => simp [mu, hm, mainW]
  | close hg => simp [mu, hg.1]
  | recvOk errs v rest hb hm => simp +arith [mu, hm, hb, mainW]
  | recvErr errs e rest hb hm =>
    simp only [mu, hm, hb]
    split <;> simp +arith [mainW]
  | recvClosed errs hb hm => simp [mu, hm, mainW]

theorem run_mu (c : Cfg V E) : ∀ (sched : List Act) (s s' : State V E),
    run c s sched = some s' → sched.length + mu c s' ≤ mu c s := by
  intro sched
  induction sched with
  | nil => intro s s' h; simp [run] at h; subst h; simp
  | cons a as ih =>
    intro s s' h
    simp only [run] at h
    cases hst : step c s a with
    | none => rw [hst] at h; cases h
    | some s1 =>
      rw [hst] at h
      have h1 := ih s1 s' h
      have h2 := step_mu c s a s1 hst
      simp; omega

/-- from every state satisfying the invariant some schedule leads to a completely finished state -/
theorem can_finish (c : Cfg V E) (s : State V E) (hi : Inv c s) :
    ∃ sched s', run c s sched = some s' ∧ Final s' := by
  -- induction on a bound `k` of the measure
  suffices ∀ k (s : State V E), mu c s ≤ k → Inv c s → ∃ sched s', run c s sched = some s' ∧ Final s' from
    this (mu c s) s (Nat.le_refl _) hi
  intro k
  induction k with
  | zero =>
    intro s hk hi
    refine ⟨[], s, rfl, progress c s hi fun a => ?_⟩
    cases hst : step c s a with
    | none => rfl
    | some s1 => have := step_mu c s a s1 hst; omega
  | succ k ih =>
    intro s hk hi
    by_cases hno : ∀ a, step c s a = none
    · exact ⟨[], s, rfl, progress c s hi hno⟩
    · have ⟨a, ha⟩ := Classical.not_forall.mp hno
      cases hst : step c s a with
      | none => exact absurd hst ha
      | some s1 =>
        have hlt := step_mu c s a s1 hst
        obtain ⟨sched, s', hr, hf⟩ := ih s1 (by omega) (inv_step c s a s1 hi hst)
        exact ⟨a :: sched, s', by simp [run, hst, hr], hf⟩

def Res.toExcept : Res V E → Except (List E) V
  | .ok v => .ok v
  | .err es => .error es

/-! ### executable helpers used by the driver: the scheduler that realises a given completion order -/

/-- deterministic scheduler: start jobs while the semaphore allows; let the running job that comes first in `order`
finish completely (send, release, wg.Done); when no job is left, main collects. -/
def prioNext (c : Cfg V E) (order : List Nat) (s : State V E) : Option Act :=
  if (step c s .start).isSome then some .start
  else match s.sentq, s.relq with
    | j :: _, _ => some (.release j)
    | [], j :: _ => some (.wgdone j)
    | [], [] =>
      match (order ++ List.range c.n).find? (fun j => s.running.contains j) with
      | some j => some (.send j)
      | none =>
        if (step c s .fork).isSome then some .fork
        else if (step c s .recv).isSome then some .recv
        else if (step c s .close).isSome then some .close
        else if (step c s .recvClosed).isSome then some .recvClosed
        else none

/-- runs the scheduler; returns the schedule taken, the end state and the largest number of simultaneously running jobs -/
def prioRun (c : Cfg V E) (order : List Nat) : Nat → State V E → List Act → Nat → List Act × State V E × Nat
  | 0, s, acc, m => (acc.reverse, s, m)
  | fuel + 1, s, acc, m =>
    match prioNext c order s with
    | none => (acc.reverse, s, m)
    | some a =>
      match step c s a with
      | none => (acc.reverse, s, m)
      | some s' => prioRun c order fuel s' (a :: acc) (max m s'.running.length)

def allActs (n : Nat) : List Act :=
  [.start, .fork, .close, .recv, .recvClosed] ++ (List.range n).flatMap fun j => [.send j, .release j, .wgdone j]

end FSys

/-!
### `findEpochNumberFromSignature` (/repo/multiepoch-getTransaction.go)

One job per epoch, highest epoch number first; the job of an epoch answers
* `ErrNotFound` when the epoch has no bucketteer, when `Has(sig)` is false, or when `Has` is true but the
  sig-to-cid index does not know the signature (bucketteer false positive),
* `fmt.Errorf("failed to check …: %w", err)` when `Has` fails (`errors.Is(…, ErrNotFound)` iff the cause wraps it),
* the epoch number when `Has` is true and the sig-to-cid index knows the signature.
With exactly one epoch the search is skipped and that epoch is returned unconditionally.
Not modelled: an epoch removed between `GetEpochNumbers` and the job's `GetEpoch` (static epoch set), cancellation.
-/
namespace FindEpoch
open FS FSys

inductive JErr where
  | notFound                                     -- ErrNotFound
  | hasFailed (epoch : Nat) (wrapsNF : Bool)      -- wrapped error of SigExistsIndex.Has
deriving BEq, Hashable, Repr, DecidableEq

def JErr.isNF : JErr → Bool
  | .notFound => true
  | .hasFailed _ w => w

inductive Kind where
  | noBucket | hasFalse | hasErr (wrapsNF : Bool) | hit | falsePos
deriving BEq, Repr, DecidableEq

def jobOut (num : Nat) : Kind → Out Nat JErr
  | .noBucket => .err .notFound
  | .hasFalse => .err .notFound
  | .hasErr w => .err (.hasFailed num w)
  | .hit => .ok num
  | .falsePos => .err .notFound

inductive FindRes where
  | found (epoch : Nat)          -- (epoch, nil)
  | notFound                     -- (0, ErrNotFound)            → JSON-RPC "Transaction not found"
  | internal (errs : List JErr)  -- (0, the ErrorSlice)         → JSON-RPC internal error
deriving BEq, Repr, DecidableEq

/-- the error handling after `jobGroup.RunWithConcurrency` -/
def classify : Res Nat JErr → FindRes
  | .ok v => .found v
  | .err es => if es.all JErr.isNF then .notFound else .internal es

def cfgOf (limit : Int) (eps : List (Nat × Kind)) : Cfg Nat JErr :=
  { n := eps.length, limit := limit,
    out := fun j => match eps[j]? with
      | some (num, k) => jobOut num k
      | none => .err .notFound }

/-- the whole function, given the result `r` of the parallel search (not consulted when there is one epoch) -/
def findResult (eps : List (Nat × Kind)) (r : Res Nat JErr) : FindRes :=
  match eps with
  | [(num, _)] => .found num
  | _ => classify r

end FindEpoch
