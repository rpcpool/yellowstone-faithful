namespace Varint

/-- Go `binary.PutUvarint` on an unbounded Nat (the model guards `v < 2^64` separately). -/
def put (v : Nat) : List UInt8 :=
  if h : v < 128 then [UInt8.ofNat v]
  else UInt8.ofNat (v % 128 + 128) :: put (v / 128)
termination_by v
decreasing_by omega

def width (v : Nat) : Nat := (put v).length

/-- Go `binary.Uvarint`: returns (value, bytesRead) or none on truncated / overlong input. -/
def get : List UInt8 → Nat → Option (Nat × Nat)
  | [], _ => none
  | b :: rest, fuel =>
    match fuel with
    | 0 => none
    | fuel+1 =>
      if b.toNat < 128 then some (b.toNat, 1)
      else match get rest fuel with
        | some (v, n) => some ((b.toNat - 128) + 128 * v, n + 1)
        | none => none

theorem put_lt128 {v : Nat} (h : v < 128) : put v = [UInt8.ofNat v] := by
  rw [put, dif_pos h]

theorem put_ge128 {v : Nat} (h : ¬ v < 128) : put v = UInt8.ofNat (v % 128 + 128) :: put (v / 128) := by
  rw [put, dif_neg h]

theorem put_length_pos (v : Nat) : 0 < (put v).length := by
  unfold put; split <;> exact Nat.succ_pos _

/-- width as a threshold function -/
theorem width_lt128 {v : Nat} (h : v < 128) : width v = 1 := by
  rw [width, put_lt128 h]; rfl

theorem width_ge128 {v : Nat} (h : ¬ v < 128) : width v = width (v / 128) + 1 := by
  rw [width, put_ge128 h]; rfl

theorem get_put (v : Nat) (rest : List UInt8) (fuel : Nat) (hf : width v ≤ fuel) :
    get (put v ++ rest) fuel = some (v, width v) := by
  induction v using Nat.strongRecOn generalizing fuel with
  | _ v ih =>
    cases fuel with
    | zero => exact absurd hf (Nat.not_le.mpr (put_length_pos v))
    | succ f =>
      by_cases h : v < 128
      · have hb : (UInt8.ofNat v).toNat = v := Nat.mod_eq_of_lt (Nat.lt_trans h (by decide))
        rw [put_lt128 h, width_lt128 h, List.singleton_append, get, hb, if_pos h]
      · have hb : (UInt8.ofNat (v % 128 + 128)).toNat = v % 128 + 128 := Nat.mod_eq_of_lt (by omega)
        rw [width_ge128 h] at hf ⊢
        rw [put_ge128 h, List.cons_append, get, hb, if_neg (by omega),
          ih (v / 128) (by omega) f (Nat.le_of_succ_le_succ hf)]
        simp only [Nat.add_sub_cancel, Nat.mod_add_div]

theorem get_bounds {b : List UInt8} {fuel v n : Nat} (h : get b fuel = some (v, n)) :
    0 < n ∧ n ≤ b.length ∧ n ≤ fuel := by
  induction b generalizing fuel v n with
  | nil => cases h
  | cons c rest ih =>
    cases fuel with
    | zero => cases h
    | succ f =>
      rw [get] at h
      split at h
      · cases h; exact ⟨Nat.one_pos, Nat.succ_pos _, Nat.succ_pos _⟩
      · split at h
        · cases h
          have := ih ‹_›
          exact ⟨Nat.succ_pos _, Nat.succ_le_succ this.2.1, Nat.succ_le_succ this.2.2⟩
        · cases h

theorem width_mono {a b : Nat} (h : a ≤ b) : width a ≤ width b := by
  induction b using Nat.strongRecOn generalizing a with
  | _ b ih =>
    by_cases hb : b < 128
    · rw [width_lt128 (Nat.lt_of_le_of_lt h hb), width_lt128 hb]; exact Nat.le_refl 1
    · rw [width_ge128 hb]
      by_cases ha : a < 128
      · rw [width_lt128 ha]; exact Nat.succ_pos _
      · rw [width_ge128 ha]
        exact Nat.succ_le_succ (ih (b / 128) (by omega) (Nat.div_le_div_right h))

theorem width_le_of_lt_pow (k v : Nat) (h : v < 128 ^ (k + 1)) : width v ≤ k + 1 := by
  induction k generalizing v with
  | zero => exact Nat.le_of_eq (width_lt128 h)
  | succ k ih =>
    by_cases hv : v < 128
    · rw [width_lt128 hv]; omega
    · rw [width_ge128 hv]
      exact Nat.succ_le_succ (ih _ (Nat.div_lt_of_lt_mul (by rwa [Nat.pow_succ, Nat.mul_comm] at h)))

theorem width_two {v : Nat} (h1 : 128 ≤ v) (h2 : v < 16384) : width v = 2 := by
  rw [width_ge128 (by omega), width_lt128 (by omega)]

theorem width_three {v : Nat} (h1 : 16384 ≤ v) (h2 : v < 2097152) : width v = 3 := by
  rw [width_ge128 (by omega), width_two (by omega) (by omega)]

/-- the linked-log reader derives the prefix width from the *total* record size; for one- and two-byte prefixes it is
    right iff the total stays in the same band: payload lengths just below a power of 128 are exactly where it is
    wrong (first members: 127, 16382, 16383) -/
theorem reader_width_iff_1 {L : Nat} (h : L < 128) : width (L + width L) = width L ↔ L ≠ 127 := by
  rw [width_lt128 h]
  constructor
  · intro e hL; subst hL
    rw [width_two (by omega) (by omega)] at e; omega
  · intro hne; exact width_lt128 (by omega)

theorem reader_width_iff_2 {L : Nat} (h1 : 128 ≤ L) (h2 : L < 16384) :
    width (L + width L) = width L ↔ L < 16382 := by
  rw [width_two h1 h2]
  constructor
  · intro e
    apply Nat.lt_of_not_le
    intro hl
    rw [width_three (by omega) (by omega)] at e; omega
  · intro hl; exact width_two (by omega) (by omega)

theorem reader_width_wrong_127 : width (127 + width 127) ≠ width 127 :=
  fun h => (reader_width_iff_1 (by decide)).mp h rfl
theorem reader_width_ok_126 : width (126 + width 126) = width 126 :=
  (reader_width_iff_1 (by decide)).mpr (by decide)
theorem reader_width_wrong_16382 : width (16382 + width 16382) ≠ width 16382 :=
  fun h => absurd ((reader_width_iff_2 (by decide) (by decide)).mp h) (by decide)
theorem reader_width_wrong_16383 : width (16383 + width 16383) ≠ width 16383 :=
  fun h => absurd ((reader_width_iff_2 (by decide) (by decide)).mp h) (by decide)
theorem reader_width_ok_16381 : width (16381 + width 16381) = width 16381 :=
  (reader_width_iff_2 (by decide) (by decide)).mpr (by decide)

end Varint
