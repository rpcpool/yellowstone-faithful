namespace B

abbrev Bytes := List UInt8

/-- little-endian encoding of `v` on exactly `w` bytes (Go putUintLe / binary.LittleEndian.PutUintN, truncating) -/
def le : Nat → Nat → Bytes
  | 0, _ => []
  | w+1, v => UInt8.ofNat (v % 256) :: le w (v / 256)

/-- little-endian decoding (Go uintLe) -/
def unle : Bytes → Nat
  | [] => 0
  | b :: rest => b.toNat + 256 * unle rest

theorem le_length (w v : Nat) : (le w v).length = w := by
  induction w generalizing v with
  | zero => rfl
  | succ w ih => simp [le, ih]

theorem unle_le (w v : Nat) : unle (le w v) = v % 256 ^ w := by
  induction w generalizing v with
  | zero => simp [le, unle, Nat.mod_one]
  | succ w ih =>
    simp only [le, unle, ih]
    have h1 : (UInt8.ofNat (v % 256)).toNat = v % 256 := by
      simp [UInt8.toNat_ofNat']
    rw [h1, Nat.pow_succ, Nat.mul_comm (256 ^ w) 256, Nat.mod_mul]

theorem unle_le_of_lt (w v : Nat) (h : v < 256 ^ w) : unle (le w v) = v := by
  rw [unle_le, Nat.mod_eq_of_lt h]

def slice (f : Bytes) (off len : Nat) : Bytes := (f.drop off).take len

theorem slice_append_right (a b : Bytes) (off len : Nat) :
    slice (a ++ b) (a.length + off) len = slice b off len := by
  unfold slice
  rw [← List.drop_drop, List.drop_append_of_le_length (Nat.le_refl _)]
  simp

theorem slice_append_left (a b : Bytes) (off len : Nat) (h : off + len ≤ a.length) :
    slice (a ++ b) off len = slice a off len := by
  unfold slice
  rw [List.drop_append_of_le_length (by omega)]
  rw [List.take_append_of_le_length (by simp [List.length_drop]; omega)]

theorem slice_self (a : Bytes) : slice a 0 a.length = a := by
  unfold slice; simp

/-- total length of the first `i` chunks -/
def prefixLen (l : List Bytes) (i : Nat) : Nat := ((l.take i).map List.length).sum

theorem prefixLen_succ (x : Bytes) (xs : List Bytes) (j : Nat) :
    prefixLen (x :: xs) (j + 1) = x.length + prefixLen xs j := rfl

/-- the `i`-th chunk of a concatenation sits at the sum of the lengths before it -/
theorem slice_flatten_at (l : List Bytes) (i : Nat) (hi : i < l.length) (off len : Nat)
    (h : off + len ≤ l[i].length) :
    slice l.flatten (prefixLen l i + off) len = slice l[i] off len := by
  induction l generalizing i with
  | nil => cases hi
  | cons x xs ih =>
    cases i with
    | zero => rw [show prefixLen (x :: xs) 0 = 0 from rfl, Nat.zero_add]; exact slice_append_left x _ off len h
    | succ j =>
      rw [prefixLen_succ, List.flatten_cons, Nat.add_assoc, slice_append_right]
      exact ih j (Nat.lt_of_succ_lt_succ hi) h

/-- … and ends inside it -/
theorem prefixLen_add_le (l : List Bytes) (i : Nat) (hi : i < l.length) :
    prefixLen l i + l[i].length ≤ l.flatten.length := by
  induction l generalizing i with
  | nil => cases hi
  | cons x xs ih =>
    rw [List.flatten_cons, List.length_append]
    cases i with
    | zero => rw [show prefixLen (x :: xs) 0 = 0 from rfl, Nat.zero_add]; exact Nat.le_add_right ..
    | succ j =>
      rw [prefixLen_succ, Nat.add_assoc]
      exact Nat.add_le_add_left (ih j (Nat.lt_of_succ_lt_succ hi)) _

/-- fixed-width records: record `i` sits at `w * i` -/
theorem prefixLen_fixed (l : List Bytes) (w : Nat) (hw : ∀ x ∈ l, x.length = w) (i : Nat) (hi : i ≤ l.length) :
    prefixLen l i = w * i := by
  induction l generalizing i with
  | nil => rw [Nat.le_zero.mp hi]; rfl
  | cons x xs ih =>
    cases i with
    | zero => rfl
    | succ j =>
      rw [prefixLen_succ, hw x (List.mem_cons_self ..), ih (fun y hy => hw y (List.mem_cons_of_mem _ hy)) j
        (Nat.le_of_succ_le_succ hi), Nat.mul_succ, Nat.add_comm]

theorem slice_flatten_fixed (l : List Bytes) (w : Nat) (hw : ∀ x ∈ l, x.length = w) (i : Nat) (hi : i < l.length) :
    slice l.flatten (w * i) w = l[i] := by
  have h1 := slice_flatten_at l i hi 0 w (by rw [hw _ (List.getElem_mem hi)]; omega)
  rw [prefixLen_fixed l w hw i (by omega)] at h1
  simp only [Nat.add_zero] at h1
  rw [h1]
  have := hw _ (List.getElem_mem hi)
  rw [← this]; exact slice_self _

theorem unle_le4 (v : Nat) (h : v < 2^32) : unle (le 4 v) = v := unle_le_of_lt 4 v h
theorem unle_le8 (v : Nat) (h : v < 2^64) : unle (le 8 v) = v := unle_le_of_lt 8 v h

theorem ofNat_toNat_255 (n : Nat) (h : n ≤ 255) : (UInt8.ofNat n).toNat = n := by
  rw [UInt8.toNat_ofNat']; omega

theorem slice_slice (b : Bytes) (o L a n : Nat) (h : a + n ≤ L) :
    slice (slice b o L) a n = slice b (o + a) n := by
  unfold slice
  rw [List.drop_take, List.drop_drop, List.take_take]
  congr 1
  omega

theorem slice_append_take {a : Bytes} {n : Nat} (h : a.length = n) (b : Bytes) : slice (a ++ b) 0 n = a :=
  List.take_left' h

theorem slice_append_skip {a : Bytes} {n : Nat} (h : a.length = n) (b : Bytes) (off len : Nat) :
    slice (a ++ b) (n + off) len = slice b off len :=
  h ▸ slice_append_right a b off len

theorem slice_take_all {a : Bytes} {n : Nat} (h : a.length = n) : slice a 0 n = a := h ▸ slice_self a

theorem fields3 {a b c : Bytes} {na nb nc : Nat} (ha : a.length = na) (hb : b.length = nb) (hc : c.length = nc)
    (t : Bytes) :
    (a ++ (b ++ (c ++ t))).take na = a ∧ slice (a ++ (b ++ (c ++ t))) na nb = b ∧
    slice (a ++ (b ++ (c ++ t))) (na + nb) nc = c ∧ (a ++ (b ++ (c ++ t))).drop (na + nb + nc) = t := by
  refine ⟨List.take_left' ha, ?_, ?_, ?_⟩
  · rw [← Nat.add_zero na, slice_append_skip ha, slice_append_take hb]
  · rw [← Nat.add_zero (na + nb), Nat.add_assoc, slice_append_skip ha, slice_append_skip hb, slice_append_take hc]
  · rw [← List.drop_drop, ← List.drop_drop, List.drop_left' ha, List.drop_left' hb, List.drop_left' hc]

theorem drop_cons_reads {l t : Bytes} {k : Nat} {x : UInt8} (h : l.drop k = x :: t) :
    l.getD k 0 = x ∧ l.drop (k + 1) = t :=
  ⟨by rw [List.getD, ← List.head?_drop, h]; rfl, by rw [← List.drop_drop, h]; rfl⟩

/-- `ReadAt` on a file held in an array is a `slice` of its bytes -/
theorem extract_toArray (l : Bytes) (off len : Nat) : (l.toArray.extract off (off + len)).toList = slice l off len := by
  simp [slice, List.extract]

end B
