import Faithful.Lib.Hash
import Faithful.Lib.Bytes
import Faithful.Lib.EytzLayout
import Faithful.Generated.Consts

/-!
Model of the signature-existence index `bucketteer` (current format, version 2: /repo/bucketteer) and of
`deprecated/bucketteer` (version 1).

Layers
* writer state `Buckets`: one list of 64-bit hashes per two-byte prefix (`Writer.Put`, `Writer.Has`);
* abstract sealed index `Sealed`: per prefix either nothing (v1: prefix never seen) or the eytzinger layout of the
  sorted, de-duplicated hashes (`seal` / `getCleanSet` / `sortWithCompare`); abstract reader `hasA`;
* bytes: `encode` is the file `Writer.Seal` leaves on disk (the draft header is overwritten by the final one, so the
  file is `final header ‖ bucket bodies`), `openB` / `hasB` are `NewReader` / `Reader.Has` over a file.

All theorems are for an arbitrary hash function `h : Sig → Nat`; the driver instantiates `h` with xxhash64.
-/
namespace BK
open B

abbrev Sig := Bytes

/-- number of two-byte prefixes (`math.MaxUint16 + 1`, the length of `prefixToHashes` / `bucketToOffset`) -/
def numPrefixes : Nat := 65536

/-- `prefixToUint16(sig[:2])`: little endian.  Go signatures are `[64]byte`; the model is total on shorter lists. -/
def prefixOf (s : Sig) : Nat := (s.getD 0 0).toNat + 256 * (s.getD 1 0).toNat

theorem prefixOf_lt (s : Sig) : prefixOf s < numPrefixes := by
  unfold prefixOf numPrefixes
  have h0 := (s.getD 0 0).toNat_lt
  have h1 := (s.getD 1 0).toNat_lt
  omega

/-! ### writer -/

/-- `Writer.prefixToHashes`.  Each bucket is kept newest-first (Go appends; `Has` is a linear scan and `Seal` sorts,
    so the order inside a bucket is never observable). -/
abbrev Buckets := Array (List Nat)

def emptyW : Buckets := Array.replicate numPrefixes []

/-- `Writer.Put` -/
def put (h : Sig → Nat) (w : Buckets) (s : Sig) : Buckets := w.modify (prefixOf s) (fun l => h s :: l)

def putAll (h : Sig → Nat) (sigs : List Sig) : Buckets := sigs.foldl (put h) emptyW

/-- `Writer.Has`: linear scan of the bucket of the prefix -/
def writerHas (h : Sig → Nat) (w : Buckets) (s : Sig) : Bool := (w.getD (prefixOf s) []).contains (h s)

theorem size_put (h : Sig → Nat) (w : Buckets) (s : Sig) : (put h w s).size = w.size := by
  simp [put]

theorem size_foldl_put (h : Sig → Nat) (sigs : List Sig) (w : Buckets) : (sigs.foldl (put h) w).size = w.size := by
  induction sigs generalizing w with
  | nil => rfl
  | cons s r ih => rw [List.foldl_cons, ih, size_put]

theorem size_putAll (h : Sig → Nat) (sigs : List Sig) : (putAll h sigs).size = numPrefixes := by
  simp [putAll, size_foldl_put, emptyW]

theorem getD_put (h : Sig → Nat) (w : Buckets) (s : Sig) (p : Nat) (hp : p < w.size) :
    (put h w s).getD p [] = if prefixOf s = p then h s :: w.getD p [] else w.getD p [] := by
  by_cases e : prefixOf s = p <;> simp [put, Array.getD, hp, Array.getElem_modify, e]

/-- what a bucket holds after any sequence of `Put`s -/
theorem mem_bucket (h : Sig → Nat) (sigs : List Sig) (w : Buckets) (p x : Nat) (hp : p < w.size) :
    x ∈ (sigs.foldl (put h) w).getD p [] ↔ x ∈ w.getD p [] ∨ ∃ s ∈ sigs, prefixOf s = p ∧ h s = x := by
  induction sigs generalizing w with
  | nil => simp
  | cons s r ih =>
    rw [List.foldl_cons, ih (put h w s) (by rw [size_put]; exact hp), getD_put h w s p hp]
    by_cases e : prefixOf s = p
    · subst e; simp [or_assoc, or_left_comm, eq_comm]
    · simp [e]

theorem mem_putAll (h : Sig → Nat) (sigs : List Sig) (p x : Nat) (hp : p < numPrefixes) :
    x ∈ (putAll h sigs).getD p [] ↔ ∃ s ∈ sigs, prefixOf s = p ∧ h s = x := by
  unfold putAll
  rw [mem_bucket h sigs emptyW p x (by simpa [emptyW] using hp)]
  simp [emptyW, Array.getD, numPrefixes] at *

/-! ### getCleanSet: sort, then drop every element equal to its predecessor -/

def dedupFrom (prev : Nat) : List Nat → List Nat
  | [] => []
  | x :: r => if x = prev then dedupFrom prev r else x :: dedupFrom x r

def dedup : List Nat → List Nat
  | [] => []
  | x :: r => x :: dedupFrom x r

def cleanSet (l : List Nat) : List Nat := dedup (l.mergeSort (fun a b => decide (a ≤ b)))

theorem mem_dedupFrom (x prev : Nat) (l : List Nat) : x ∈ prev :: dedupFrom prev l ↔ x ∈ prev :: l := by
  induction l generalizing prev with
  | nil => rfl
  | cons y r ih =>
    rw [dedupFrom]
    by_cases e : y = prev
    · rw [if_pos e, ih, e]; simp
    · rw [if_neg e, List.mem_cons, ih]; simp

theorem mem_dedup (x : Nat) (l : List Nat) : x ∈ dedup l ↔ x ∈ l := by
  cases l with
  | nil => rfl
  | cons y r => exact mem_dedupFrom x y r

theorem dedupFrom_sorted (prev : Nat) (l : List Nat) (hs : (prev :: l).Pairwise (· ≤ ·)) :
    (prev :: dedupFrom prev l).Pairwise (· < ·) := by
  induction l generalizing prev with
  | nil => simp [dedupFrom]
  | cons y r ih =>
    rw [dedupFrom]
    have hs' := List.pairwise_cons.1 hs
    have hyr := List.pairwise_cons.1 hs'.2
    by_cases e : y = prev
    · simp only [e, if_true]
      apply ih
      exact List.pairwise_cons.2 ⟨fun a ha => hs'.1 a (List.mem_cons_of_mem _ ha), hyr.2⟩
    · simp only [e, if_false]
      have hlt : prev < y := by
        have := hs'.1 y (List.mem_cons_self ..); omega
      have ih' := ih y hs'.2
      refine List.pairwise_cons.2 ⟨?_, ih'⟩
      intro a ha
      rcases List.mem_cons.1 ha with rfl | ha
      · exact hlt
      · have := (List.pairwise_cons.1 ih').1 a ha; omega

theorem dedup_sorted (l : List Nat) (hs : l.Pairwise (· ≤ ·)) : (dedup l).Pairwise (· < ·) := by
  cases l with
  | nil => simp [dedup]
  | cons y r => exact dedupFrom_sorted y r hs

theorem mem_cleanSet (x : Nat) (l : List Nat) : x ∈ cleanSet l ↔ x ∈ l := by
  unfold cleanSet
  rw [mem_dedup, List.mem_mergeSort]

theorem cleanSet_sorted (l : List Nat) : (cleanSet l).Pairwise (· < ·) := by
  unfold cleanSet
  apply dedup_sorted
  have := List.pairwise_mergeSort (le := fun a b => decide (a ≤ b))
    (by intro a b c; simp; omega) (by intro a b; simp; omega) l
  exact this.imp (by intro a b; simp)

abbrev Lay := Array (Nat × Unit)

/-- `getCleanSet` + `sortWithCompare` (sort again, `eytzinger(a, sorted, 0, 1)`) -/
def layoutOf (l : List Nat) : Lay := Eytz.layout ((cleanSet l).map (fun x => (x, ()))).toArray

/-- `searchEytzinger(0, numHashes, x, getter)` followed by `got == wantedHash` -/
def searchLay (lay : Lay) (x : Nat) : Bool := (Eytz.search lay x (lay.size + 1) 0).isSome

theorem pairs_getD (cs : List Nat) (j : Nat) (hj : j < cs.length) :
    (cs.map fun x => (x, ())).toArray.getD j default = (cs[j], ()) := by
  simp [Array.getD, hj]

theorem size_layoutOf (l : List Nat) : (layoutOf l).size = (cleanSet l).length := by
  simp [layoutOf, Eytz.size_layout]

/-- the fuel `size + 1` is enough for the Go loop `for index < max`: more fuel never changes the answer -/
theorem search_fuel_enough {β : Type} [Inhabited β] (a : Array (Nat × β)) (x : Nat) (fuel idx : Nat)
    (hf : a.size + 1 ≤ idx + fuel) (extra : Nat) :
    Eytz.search a x (fuel + extra) idx = Eytz.search a x fuel idx := by
  induction fuel generalizing idx with
  | zero =>
    cases extra with
    | zero => rfl
    | succ e =>
      have : ¬ idx < a.size := by omega
      simp [Eytz.search, this]
  | succ f ih =>
    rw [show f + 1 + extra = (f + extra) + 1 by omega]
    rw [Eytz.search, Eytz.search]
    by_cases hi : idx < a.size
    · simp only [hi, if_true]
      by_cases he : (a.getD idx default).1 = x
      · rw [if_pos he, if_pos he]
      · rw [if_neg he, if_neg he]
        apply ih
        by_cases hlt : (a.getD idx default).1 < x
        · rw [if_pos hlt]; omega
        · rw [if_neg hlt]; omega
    · simp [hi]

/-- a hash is found in the layout of a bucket exactly when the bucket contains it (every population) -/
theorem searchLay_iff (l : List Nat) (x : Nat) : searchLay (layoutOf l) x = true ↔ x ∈ l := by
  have hsz : ((cleanSet l).map fun x => (x, ())).toArray.size = (cleanSet l).length := by simp
  rw [← mem_cleanSet x l, searchLay, size_layoutOf, ← hsz, layoutOf]
  constructor
  · intro hfound
    obtain ⟨v, hv⟩ := Option.isSome_iff_exists.1 hfound
    obtain ⟨j, hj, hjv⟩ := Eytz.layout_search_sound _ x v hv
    rw [hsz] at hj
    rw [pairs_getD _ j hj] at hjv
    exact (show (cleanSet l)[j] = x from congrArg Prod.fst hjv) ▸ List.getElem_mem hj
  · intro hm
    obtain ⟨j, hj, rfl⟩ := List.getElem_of_mem hm
    have := Eytz.layout_search_complete _ (fun p q hpq hq => ?_) j (hsz ▸ hj)
    · rw [pairs_getD _ j hj] at this
      rw [this]; rfl
    · rw [hsz] at hq
      rw [pairs_getD _ p (by omega), pairs_getD _ q hq]
      exact List.pairwise_iff_getElem.1 (cleanSet_sorted l) p q (by omega) hq hpq

/-- per prefix: `none` = the prefix has no offset-table entry (v1 only), `some lay` = its bucket in file order -/
abbrev Sealed := Array (Option Lay)

/-- the two formats differ abstractly only in whether a never-seen prefix gets an (empty) bucket -/
inductive Fmt | v2 | v1
deriving DecidableEq, Repr

def sealBucket (fmt : Fmt) (b : List Nat) : Option Lay :=
  match fmt with
  | .v2 => some (layoutOf b)                                  -- all 65 536 buckets are written
  | .v1 => if b.isEmpty then none else some (layoutOf b)      -- only map keys, i.e. prefixes that were `Put`

/-- `seal(...)` at the abstract level -/
def sealA (fmt : Fmt) (w : Buckets) : Sealed := w.map (sealBucket fmt)

/-- `Reader.Has` at the abstract level: offset-table lookup, then the eytzinger search -/
def hasA (sd : Sealed) (p x : Nat) : Bool :=
  match sd.getD p none with
  | none => false
  | some lay => searchLay lay x

theorem getD_sealA (fmt : Fmt) (w : Buckets) (p : Nat) (hp : p < w.size) :
    (sealA fmt w).getD p none = sealBucket fmt (w.getD p []) := by
  simp [sealA, Array.getD, hp]

/-- the abstract reader answers exactly "the hash is in the writer's bucket of that prefix" (both formats) -/
theorem hasA_sealA_iff (fmt : Fmt) (w : Buckets) (p x : Nat) (hp : p < w.size) :
    hasA (sealA fmt w) p x = true ↔ x ∈ w.getD p [] := by
  unfold hasA
  rw [getD_sealA fmt w p hp]
  cases fmt with
  | v2 => simp only [sealBucket]; exact searchLay_iff _ _
  | v1 =>
    simp only [sealBucket]
    cases hb : w.getD p [] with
    | nil => simp
    | cons a r => simp only [List.isEmpty_cons, Bool.false_eq_true, if_false]; exact searchLay_iff _ _

/-! ### bytes: the file `Writer.Seal` leaves on disk

`seal` writes a draft header (size 0, all offsets 0), the bucket bodies, flushes, and `Seal` overwrites the draft with
the final header of the same length at offset 0.  The file is therefore `final header ‖ bodies`. -/

def magicOf : Fmt → Bytes
  | .v2 => Generated.bucketteerMagic
  | .v1 => Generated.legacyBucketteerMagic

def versionOf : Fmt → Nat
  | .v2 => Generated.bucketteerVersion
  | .v1 => Generated.legacyBucketteerVersion

abbrev MetaKVs := List (Bytes × Bytes)

/-- v2: `indexmeta.Meta.MarshalBinary` (count byte, then klen k vlen v);
    v1: `uint64 count`, then Borsh strings (`u32 len ‖ bytes`) in the order the caller's map was iterated -/
def metaBytes : Fmt → MetaKVs → Bytes
  | .v2, m => UInt8.ofNat m.length :: m.flatMap fun kv => (UInt8.ofNat kv.1.length :: kv.1) ++ (UInt8.ofNat kv.2.length :: kv.2)
  | .v1, m => le 8 m.length ++ m.flatMap fun kv => (le 4 kv.1.length ++ kv.1) ++ (le 4 kv.2.length ++ kv.2)

/-- order in which prefixes are written: v2 ranges over the array index (little-endian value of the prefix);
    v1 sorts the map keys with `bytes.Compare`, i.e. ascending in the big-endian reading `i = 256*b0 + b1`
    of the two bytes, whose little-endian value (the bucket index) is `b0 + 256*b1 = i/256 + 256*(i%256)` -/
def prefixOrder : Fmt → List Nat
  | .v2 => List.range numPrefixes
  | .v1 => (List.range numPrefixes).map fun i => i / 256 + 256 * (i % 256)

/-- offset-table entries in file order -/
def entries (fmt : Fmt) (sd : Sealed) : List (Nat × Lay) :=
  (prefixOrder fmt).filterMap fun p => (sd.getD p none).map fun lay => (p, lay)

/-- one bucket body: `uint32 count ‖ uint64 hash*` in eytzinger order -/
def bucketBytes (lay : Lay) : Bytes := le 4 lay.size ++ lay.toList.flatMap (fun e => le 8 e.1)

/-- `prefix ‖ uint64 offset` pairs; the offset of a bucket is the total size of the bodies before it -/
def tableFrom : List (Nat × Lay) → Nat → Bytes
  | [], _ => []
  | e :: r, off => (le 2 e.1 ++ le 8 off) ++ tableFrom r (off + (4 + 8 * e.2.size))

def headerRest (fmt : Fmt) (m : MetaKVs) (es : List (Nat × Lay)) : Bytes :=
  magicOf fmt ++ (le 8 (versionOf fmt) ++ (metaBytes fmt m ++ (le 8 es.length ++ tableFrom es 0)))

/-- `createHeader(magic, version, headerSize-4, meta, prefixToOffset)` -/
def headerBytes (fmt : Fmt) (m : MetaKVs) (es : List (Nat × Lay)) : Bytes :=
  le 4 (headerRest fmt m es).length ++ headerRest fmt m es

def bodyBytes (es : List (Nat × Lay)) : Bytes := (es.map fun e => bucketBytes e.2).flatten

def encode (fmt : Fmt) (m : MetaKVs) (sd : Sealed) : Bytes :=
  headerBytes fmt m (entries fmt sd) ++ bodyBytes (entries fmt sd)

abbrev File := Array UInt8

/-- `ReaderAt.ReadAt(buf[len], off)`: all `len` bytes or an error -/
def rd (f : File) (off len : Nat) : Option Bytes :=
  if off + len ≤ f.size then some (f.extract off (off + len)).toList else none

/-- v2 `Meta.UnmarshalWithDecoder`: `n` key-value pairs, one length byte each; returns the unread rest -/
def parseMeta2 : Nat → Bytes → Option (MetaKVs × Bytes)
  | 0, bs => some ([], bs)
  | _+1, [] => none
  | n+1, kl :: r =>
    if (r.take kl.toNat).length < kl.toNat then none else
    match r.drop kl.toNat with
    | [] => none
    | vl :: r2 =>
      if (r2.take vl.toNat).length < vl.toNat then none else
      match parseMeta2 n (r2.drop vl.toNat) with
      | none => none
      | some (l, rest) => some ((r.take kl.toNat, r2.take vl.toNat) :: l, rest)

/-- Borsh `ReadString`: `u32` length (≤ 0x7FFFFFFF), then the bytes -/
def readString (bs : Bytes) : Option (Bytes × Bytes) :=
  if (bs.take 4).length < 4 then none else
  let n := unle (bs.take 4)
  if n > 0x7FFFFFFF then none else
  let r := bs.drop 4
  if (r.take n).length < n then none else some (r.take n, r.drop n)

/-- v1 header metadata: `n` pairs of Borsh strings -/
def parseMeta1 : Nat → Bytes → Option (MetaKVs × Bytes)
  | 0, bs => some ([], bs)
  | n+1, bs =>
    match readString bs with
    | none => none
    | some (k, r) =>
      match readString r with
      | none => none
      | some (v, r2) =>
        match parseMeta1 n r2 with
        | none => none
        | some (l, rest) => some ((k, v) :: l, rest)

def parseMeta (fmt : Fmt) (bs : Bytes) : Option (MetaKVs × Bytes) :=
  match fmt with
  | .v2 =>
    match bs with
    | [] => none
    | c :: r => parseMeta2 c.toNat r
  | .v1 =>
    if (bs.take 8).length < 8 then none else parseMeta1 (unle (bs.take 8)) (bs.drop 8)

/-- the `prefix -> offset` loop of `readHeader`; a later entry for the same prefix overwrites an earlier one -/
def parseTable : Nat → Bytes → Array (Option Nat) → Option (Array (Option Nat))
  | 0, _, t => some t
  | n+1, b0 :: b1 :: o0 :: o1 :: o2 :: o3 :: o4 :: o5 :: o6 :: o7 :: rest, t =>
    parseTable n rest (t.setIfInBounds (b0.toNat + 256 * b1.toNat) (some (unle [o0, o1, o2, o3, o4, o5, o6, o7])))
  | _+1, _, _ => none

structure Rdr where
  fmt : Fmt
  /-- `prefixToOffset`: `none` = no entry (v1: map miss; v2: the array still holds `math.MaxUint64`) -/
  table : Array (Option Nat)
  /-- `headerTotalSize`: where `contentReader` starts -/
  base : Nat
  metaKVs : MetaKVs

/-- `NewReader`: `none` = any error -/
def openB (fmt : Fmt) (f : File) : Option Rdr :=
  match rd f 0 1 with          -- isReaderEmpty
  | none => none
  | some _ =>
    match rd f 0 4 with        -- readHeaderSize
    | none => none
    | some hs =>
      match rd f 4 (unle hs) with
      | none => none
      | some buf =>
        if buf.take 8 ≠ magicOf fmt then none else
        if ((buf.drop 8).take 8).length < 8 then none else
        if unle ((buf.drop 8).take 8) ≠ versionOf fmt then none else
        match parseMeta fmt (buf.drop 16) with
        | none => none
        | some (m, r2) =>
          if (r2.take 8).length < 8 then none else
          match parseTable (unle (r2.take 8)) (r2.drop 8) (Array.replicate numPrefixes none) with
          | none => none
          | some t => some ⟨fmt, t, unle hs + 4, m⟩

inductive Res | yes | no | err
deriving DecidableEq, Repr

/-- `searchEytzinger` over a getter that can fail, then `got == wantedHash` -/
def searchB (get : Nat → Option Nat) (x max : Nat) : Nat → Nat → Res
  | 0, _ => .no
  | fuel+1, index =>
    if index < max then
      match get index with
      | none => .err
      | some k =>
        if k = x then .yes
        else searchB get x max fuel (if k < x then 2*index+2 else 2*index+1)
    else .no

/-- `Reader.Has` for prefix `p` and wanted hash `x` -/
def hasB (f : File) (r : Rdr) (p x : Nat) : Res :=
  match r.table.getD p none with
  | none => .no
  | some off =>
    if r.fmt = .v2 ∧ off = 2^64 - 1 then .no          -- v2 sentinel `math.MaxUint64`
    else if off ≥ 2^63 then .err                        -- `int64(offset)` negative: SectionReader answers EOF
    else
      match rd f (r.base + off) 4 with
      | none => .err
      | some nb =>
        -- `io.NewSectionReader(contentReader, offset+4, int64(numHashes*8))` with the product in uint32
        searchB (fun i => if i * 8 + 8 ≤ (unle nb * 8) % 2^32 then (rd f (r.base + off + 4 + i * 8) 8).map unle else none)
          x (unle nb) (unle nb + 1) 0

theorem rd_toArray (l : Bytes) (off len : Nat) :
    rd l.toArray off len = if off + len ≤ l.length then some (slice l off len) else none := by
  rw [rd, extract_toArray, List.size_toArray]

/-- a read behind a prefix of the file is a read of the rest -/
theorem rd_drop (l : Bytes) (base k n : Nat) (hb : base ≤ l.length) :
    rd l.toArray (base + k) n = if k + n ≤ (l.drop base).length then some (((l.drop base).drop k).take n) else none := by
  rw [rd_toArray, List.length_drop, slice, List.drop_drop]
  by_cases h : base + k + n ≤ l.length
  · rw [if_pos h, if_pos (by omega)]
  · rw [if_neg h, if_neg (by omega)]

theorem slice_length (b : Bytes) (o n : Nat) (h : o + n ≤ b.length) : (slice b o n).length = n := by
  unfold slice; simp; omega

theorem bucketBytes_length (lay : Lay) : (bucketBytes lay).length = 4 + 8 * lay.size := by
  unfold bucketBytes
  rw [List.length_append, le_length]
  congr 1
  have : ∀ l : List (Nat × Unit), (l.flatMap (fun e => le 8 e.1)).length = 8 * l.length := by
    intro l
    induction l with
    | nil => rfl
    | cons x r ih => simp [List.flatMap_cons, le_length, ih]; omega
  rw [this]; simp

theorem bucketBytes_count (lay : Lay) : slice (bucketBytes lay) 0 4 = le 4 lay.size := by
  unfold bucketBytes
  exact slice_append_take (le_length 4 _) _

theorem bucketBytes_hash (lay : Lay) (i : Nat) (hi : i < lay.size) :
    slice (bucketBytes lay) (4 + i * 8) 8 = le 8 (lay.getD i default).1 := by
  unfold bucketBytes
  have h4 := slice_append_right (le 4 lay.size) (lay.toList.flatMap (fun e => le 8 e.1)) (i * 8) 8
  rw [le_length] at h4
  rw [h4, List.flatMap_def]
  have hfix : ∀ x ∈ lay.toList.map (fun e => le 8 e.1), x.length = 8 := by
    intro x hx
    obtain ⟨e, _, rfl⟩ := List.mem_map.1 hx
    exact le_length _ _
  have hlen : i < (lay.toList.map (fun e => le 8 e.1)).length := by simpa using hi
  have := slice_flatten_fixed _ 8 hfix i hlen
  rw [Nat.mul_comm] at this
  rw [this]
  simp [Array.getD, hi]

theorem searchB_eq (lay : Lay) (get : Nat → Option Nat) (x : Nat)
    (hget : ∀ i, i < lay.size → get i = some (lay.getD i default).1) (fuel idx : Nat) :
    searchB get x lay.size fuel idx = if (Eytz.search lay x fuel idx).isSome then Res.yes else Res.no := by
  induction fuel generalizing idx with
  | zero => simp [searchB, Eytz.search]
  | succ f ih =>
    rw [searchB, Eytz.search]
    by_cases hi : idx < lay.size
    · rw [if_pos hi, if_pos hi, hget idx hi]
      simp only []
      by_cases he : (lay.getD idx default).1 = x
      · rw [if_pos he, if_pos he]; rfl
      · rw [if_neg he, if_neg he]; exact ih _
    · rw [if_neg hi, if_neg hi]; rfl

/-- what the offset-table loop of `readHeader` computes from `tableFrom` -/
def setAll : List (Nat × Lay) → Nat → Array (Option Nat) → Array (Option Nat)
  | [], _, t => t
  | e :: r, off, t => setAll r (off + (4 + 8 * e.2.size)) (t.setIfInBounds e.1 (some (off % 2^64)))

theorem parseTable_succ (n : Nat) (bs : Bytes) (t : Array (Option Nat)) :
    parseTable (n + 1) bs t =
      if bs.length < 10 then none
      else parseTable n (bs.drop 10) (t.setIfInBounds (prefixOf bs) (some (unle ((bs.drop 2).take 8)))) := by
  match bs with
  | [] | [_] | [_, _] | [_, _, _] | [_, _, _, _] | [_, _, _, _, _] | [_, _, _, _, _, _] | [_, _, _, _, _, _, _]
  | [_, _, _, _, _, _, _, _] | [_, _, _, _, _, _, _, _, _] => rfl
  | _ :: _ :: _ :: _ :: _ :: _ :: _ :: _ :: _ :: _ :: rest =>
    rw [if_neg (by simp only [List.length_cons]; omega)]
    rfl

theorem prefixOf_le2 (p : Nat) (rest : Bytes) (hp : p < 65536) : prefixOf (le 2 p ++ rest) = p := by
  show (UInt8.ofNat (p % 256)).toNat + 256 * (UInt8.ofNat (p / 256 % 256)).toNat = p
  have h : p / 256 < 256 := Nat.div_lt_of_lt_mul hp
  rw [Nat.mod_eq_of_lt h, ofNat_toNat_255 _ (Nat.le_of_lt_succ (Nat.mod_lt p (by decide))),
    ofNat_toNat_255 _ (Nat.le_of_lt_succ h), Nat.mod_add_div]

theorem parseTable_step (n p off : Nat) (rest : Bytes) (t : Array (Option Nat)) (hp : p < 65536) :
    parseTable (n+1) ((le 2 p ++ le 8 off) ++ rest) t
      = parseTable n rest (t.setIfInBounds p (some (off % 2^64))) := by
  have h10 : (le 2 p ++ le 8 off).length = 10 := by rw [List.length_append, le_length, le_length]
  have hd2 : ((le 2 p ++ le 8 off) ++ rest).drop 2 = le 8 off ++ rest := by
    rw [List.append_assoc]; exact List.drop_left' (le_length 2 p)
  rw [parseTable_succ, if_neg (by rw [List.length_append, h10]; omega), List.drop_left' h10, hd2,
    List.take_left' (le_length 8 off), unle_le, List.append_assoc, prefixOf_le2 p _ hp]

theorem parseTable_tableFrom (es : List (Nat × Lay)) (off : Nat) (t : Array (Option Nat))
    (hk : ∀ e ∈ es, e.1 < 65536) :
    parseTable es.length (tableFrom es off) t = some (setAll es off t) := by
  induction es generalizing off t with
  | nil => rfl
  | cons e r ih =>
    rw [List.length_cons, tableFrom, parseTable_step _ _ _ _ _ (hk e (List.mem_cons_self ..)), setAll]
    exact ih _ _ (fun e' he' => hk e' (List.mem_cons_of_mem _ he'))

theorem setAll_size (es : List (Nat × Lay)) (off : Nat) (t : Array (Option Nat)) : (setAll es off t).size = t.size := by
  induction es generalizing off t with
  | nil => rfl
  | cons e r ih => rw [setAll, ih]; simp

theorem setAll_not_mem (es : List (Nat × Lay)) (off : Nat) (t : Array (Option Nat)) (p : Nat)
    (h : ∀ e ∈ es, e.1 ≠ p) : (setAll es off t).getD p none = t.getD p none := by
  induction es generalizing off t with
  | nil => rfl
  | cons e r ih =>
    rw [setAll, ih _ _ (fun e' he' => h e' (List.mem_cons_of_mem _ he'))]
    exact Eytz.getD_setIfInBounds_ne t e.1 p _ none (h e (List.mem_cons_self ..))

theorem bodyBytes_cons (e : Nat × Lay) (r : List (Nat × Lay)) :
    bodyBytes (e :: r) = bucketBytes e.2 ++ bodyBytes r := by
  simp [bodyBytes]

theorem setAll_mem (es : List (Nat × Lay)) (off : Nat) (t : Array (Option Nat)) (p : Nat) (lay : Lay)
    (hnd : es.Pairwise (fun a b => a.1 ≠ b.1)) (hk : ∀ e ∈ es, e.1 < t.size) (hm : (p, lay) ∈ es) :
    ∃ o, (setAll es off t).getD p none = some ((off + o) % 2^64) ∧ o + (4 + 8 * lay.size) ≤ (bodyBytes es).length ∧
      slice (bodyBytes es) o (4 + 8 * lay.size) = bucketBytes lay := by
  induction es generalizing off t with
  | nil => cases hm
  | cons e r ih =>
    obtain ⟨hne, hnd⟩ := List.pairwise_cons.1 hnd
    rw [setAll, bodyBytes_cons, List.length_append, bucketBytes_length]
    rcases List.mem_cons.1 hm with rfl | hm
    · refine ⟨0, ?_, by rw [Nat.zero_add]; exact Nat.le_add_right _ _, ?_⟩
      · rw [setAll_not_mem _ _ _ _ (fun e' he' => (hne e' he').symm)]
        exact Eytz.getD_setIfInBounds_eq t p _ none (hk _ (List.mem_cons_self ..))
      · rw [← bucketBytes_length]; exact slice_append_take rfl _
    · obtain ⟨o, ho, hfit, hsl⟩ := ih (off + (4 + 8 * e.2.size)) (t.setIfInBounds e.1 (some (off % 2^64))) hnd
        (fun e' he' => by rw [Array.size_setIfInBounds]; exact hk e' (List.mem_cons_of_mem _ he')) hm
      refine ⟨4 + 8 * e.2.size + o, Nat.add_assoc off _ o ▸ ho, by omega, ?_⟩
      rw [← bucketBytes_length, slice_append_right]; exact hsl

/-- the v1 order swaps the two prefix bytes; below 2^16 the swap is its own inverse and stays below 2^16 -/
theorem swap_swap (a : Nat) (ha : a < 65536) :
    a / 256 + 256 * (a % 256) < 65536 ∧
    (a / 256 + 256 * (a % 256)) / 256 + 256 * ((a / 256 + 256 * (a % 256)) % 256) = a := by
  have h : a / 256 < 256 := Nat.div_lt_of_lt_mul ha
  have h' : a % 256 < 256 := Nat.mod_lt _ (by decide)
  rw [Nat.add_mul_mod_self_left, Nat.mod_eq_of_lt h, Nat.add_mul_div_left _ _ (by decide), Nat.div_eq_of_lt h,
    Nat.zero_add]
  exact ⟨by omega, Nat.mod_add_div a 256⟩

theorem mem_prefixOrder (fmt : Fmt) (p : Nat) : p ∈ prefixOrder fmt ↔ p < numPrefixes := by
  cases fmt with
  | v2 => exact List.mem_range
  | v1 =>
    simp only [prefixOrder, List.mem_map, List.mem_range]
    exact ⟨fun ⟨i, hi, e⟩ => e ▸ (swap_swap i hi).1, fun hp => ⟨_, (swap_swap p hp).1, (swap_swap p hp).2⟩⟩

theorem prefixOrder_nodup (fmt : Fmt) : (prefixOrder fmt).Pairwise (· ≠ ·) := by
  cases fmt with
  | v2 => exact List.nodup_range
  | v1 =>
    rw [prefixOrder, List.pairwise_map]
    refine List.Pairwise.imp_of_mem ?_ (List.pairwise_lt_range (n := numPrefixes))
    intro a b ha hb hab h
    have := congrArg (fun s => s / 256 + 256 * (s % 256)) h
    simp only [(swap_swap a (List.mem_range.mp ha)).2, (swap_swap b (List.mem_range.mp hb)).2] at this
    exact Nat.ne_of_lt hab this

theorem mem_entries (fmt : Fmt) (sd : Sealed) (p : Nat) (lay : Lay) :
    (p, lay) ∈ entries fmt sd ↔ p < numPrefixes ∧ sd.getD p none = some lay := by
  simp only [entries, List.mem_filterMap, Option.map_eq_some_iff, Prod.mk.injEq, mem_prefixOrder]
  constructor
  · rintro ⟨q, hq, l, hs, rfl, rfl⟩; exact ⟨hq, hs⟩
  · rintro ⟨hp, hs⟩; exact ⟨p, hp, lay, hs, rfl, rfl⟩

theorem entries_key (fmt : Fmt) (sd : Sealed) (e : Nat × Lay) (he : e ∈ entries fmt sd) :
    e.1 < numPrefixes ∧ sd.getD e.1 none = some e.2 :=
  (mem_entries fmt sd e.1 e.2).1 he

theorem entries_nodup (fmt : Fmt) (sd : Sealed) : (entries fmt sd).Pairwise (fun a b => a.1 ≠ b.1) := by
  unfold entries
  refine List.Pairwise.filterMap _ ?_ (prefixOrder_nodup fmt)
  intro a a' hne b hb b' hb'
  obtain ⟨l, _, rfl⟩ := Option.map_eq_some_iff.mp hb
  obtain ⟨l', _, rfl⟩ := Option.map_eq_some_iff.mp hb'
  exact hne

/-- metadata the header can carry: v2 = the `indexmeta` limits; v1 = what Borsh `ReadString` accepts back -/
def metaOk : Fmt → MetaKVs → Prop
  | .v2, m => m.length ≤ 255 ∧ ∀ kv ∈ m, kv.1.length ≤ 255 ∧ kv.2.length ≤ 255
  | .v1, m => m.length < 2^64 ∧ ∀ kv ∈ m, kv.1.length ≤ 0x7FFFFFFF ∧ kv.2.length ≤ 0x7FFFFFFF

theorem parseMeta2_enc (m : MetaKVs) (rest : Bytes) (h : ∀ kv ∈ m, kv.1.length ≤ 255 ∧ kv.2.length ≤ 255) :
    parseMeta2 m.length
      ((m.flatMap fun kv => (UInt8.ofNat kv.1.length :: kv.1) ++ (UInt8.ofNat kv.2.length :: kv.2)) ++ rest)
      = some (m, rest) := by
  induction m with
  | nil => rfl
  | cons kv r ih =>
    obtain ⟨hk, hv⟩ := h kv (List.mem_cons_self ..)
    have ih' := ih fun kv' h' => h kv' (List.mem_cons_of_mem _ h')
    simp only [List.cons_append] at ih'
    simp only [List.length_cons, List.flatMap_cons, List.cons_append, List.append_assoc, parseMeta2,
      ofNat_toNat_255 _ hk, ofNat_toNat_255 _ hv, List.take_left, List.drop_left, Nat.lt_irrefl, if_false, ih']

theorem readString_enc (k rest : Bytes) (hk : k.length ≤ 0x7FFFFFFF) :
    readString ((le 4 k.length ++ k) ++ rest) = some (k, rest) := by
  unfold readString
  rw [List.append_assoc, List.take_left' (le_length 4 _), List.drop_left' (le_length 4 _), le_length,
    unle_le4 _ (by omega), if_neg (Nat.lt_irrefl _), if_neg (by omega)]
  simp only [List.take_left, List.drop_left, Nat.lt_irrefl, if_false]

theorem parseMeta1_enc (m : MetaKVs) (rest : Bytes)
    (h : ∀ kv ∈ m, kv.1.length ≤ 0x7FFFFFFF ∧ kv.2.length ≤ 0x7FFFFFFF) :
    parseMeta1 m.length
      ((m.flatMap fun kv => (le 4 kv.1.length ++ kv.1) ++ (le 4 kv.2.length ++ kv.2)) ++ rest) = some (m, rest) := by
  induction m with
  | nil => rfl
  | cons kv r ih =>
    obtain ⟨hk, hv⟩ := h kv (List.mem_cons_self ..)
    simp only [List.length_cons, List.flatMap_cons, parseMeta1, List.append_assoc (_ ++ _), readString_enc _ _ hk,
      readString_enc _ _ hv, ih fun kv' h' => h kv' (List.mem_cons_of_mem _ h')]

theorem parseMeta_enc (fmt : Fmt) (m : MetaKVs) (rest : Bytes) (h : metaOk fmt m) :
    parseMeta fmt (metaBytes fmt m ++ rest) = some (m, rest) := by
  cases fmt with
  | v2 =>
    simp only [parseMeta, metaBytes, List.cons_append, ofNat_toNat_255 _ h.1]
    exact parseMeta2_enc m rest h.2
  | v1 =>
    simp only [parseMeta, metaBytes, List.append_assoc]
    rw [List.take_left' (le_length 8 _), List.drop_left' (le_length 8 _), le_length, unle_le8 _ h.1,
      if_neg (Nat.lt_irrefl _)]
    exact parseMeta1_enc m rest h.2

theorem magicOf_length (fmt : Fmt) : (magicOf fmt).length = 8 := by cases fmt <;> rfl
theorem versionOf_lt (fmt : Fmt) : versionOf fmt < 2 ^ 64 := by cases fmt <;> decide

theorem entries_length_le (fmt : Fmt) (sd : Sealed) : (entries fmt sd).length ≤ numPrefixes := by
  unfold entries
  refine Nat.le_trans (List.length_filterMap_le _ _) ?_
  cases fmt <;> simp [prefixOrder]

def initTable : Array (Option Nat) := Array.replicate numPrefixes none

theorem initTable_size : initTable.size = numPrefixes := Array.size_replicate

theorem initTable_getD (p : Nat) : initTable.getD p none = none := by
  rw [initTable, Array.getD_eq_getD_getElem?, Array.getElem?_replicate]
  split <;> rfl

/-- `NewReader` succeeds on every file `Seal` writes, and reads back exactly the offsets that were written -/
theorem openB_encode (fmt : Fmt) (m : MetaKVs) (sd : Sealed) (hm : metaOk fmt m)
    (hh : (headerRest fmt m (entries fmt sd)).length < 2^32) :
    openB fmt (encode fmt m sd).toArray =
      some ⟨fmt, setAll (entries fmt sd) 0 initTable, (headerBytes fmt m (entries fmt sd)).length, m⟩ := by
  have hmag := magicOf_length fmt
  have hn : (entries fmt sd).length < 2^64 := Nat.lt_of_le_of_lt (entries_length_le fmt sd) (by decide)
  have h16 : ∀ c : Bytes, (magicOf fmt ++ (le 8 (versionOf fmt) ++ c)).drop 16 = c := fun c => by
    rw [← List.append_assoc]; exact List.drop_left' (by rw [List.length_append, hmag, le_length])
  -- the file is `le 4 |R| ++ (R ++ bodies)`, `R = headerRest …`; every field is a `take`/`drop` at a known length
  generalize hR : headerRest fmt m (entries fmt sd) = R at hh
  have hF : encode fmt m sd = le 4 R.length ++ (R ++ bodyBytes (entries fmt sd)) := by
    rw [encode, headerBytes, hR, List.append_assoc]
  have r4 : slice (le 4 R.length ++ (R ++ bodyBytes (entries fmt sd))) 0 4 = le 4 R.length :=
    slice_append_take (le_length 4 _) _
  have rR : slice (le 4 R.length ++ (R ++ bodyBytes (entries fmt sd))) 4 R.length = R := by
    rw [← Nat.add_zero 4, slice_append_skip (le_length 4 _), slice_append_take rfl]
  have hlen : (le 4 R.length ++ (R ++ bodyBytes (entries fmt sd))).length = 4 + (R.length + (bodyBytes (entries fmt sd)).length) := by
    rw [List.length_append, List.length_append, le_length]
  unfold openB
  rw [headerBytes, hR, List.length_append, le_length, hF, rd_toArray, if_pos (by omega), rd_toArray, if_pos (by omega), r4]
  simp only [unle_le4 _ hh, rd_toArray, hlen, Nat.add_le_add_iff_left, Nat.le_add_right, if_true, rR]
  subst hR
  simp only [headerRest, List.take_left' hmag, List.drop_left' hmag, List.take_left' (le_length 8 _),
    List.drop_left' (le_length 8 _), h16, le_length, unle_le8 _ (versionOf_lt fmt), unle_le8 _ hn, parseMeta_enc fmt m _ hm,
    ne_eq, not_true_eq_false, Nat.lt_irrefl, if_false,
    parseTable_tableFrom _ 0 _ fun e he => (entries_key fmt sd e he).1]
  rw [Nat.add_comm, initTable]

/-- what the byte-level theorem needs from the sealed buckets: `numHashes*8` fits `uint32`, hashes fit `uint64` -/
structure SealedOk (sd : Sealed) : Prop where
  small : ∀ p lay, sd.getD p none = some lay → lay.size < 2^29
  keys : ∀ p lay, sd.getD p none = some lay → ∀ i, i < lay.size → (lay.getD i default).1 < 2^64

theorem hasB_none (f : File) (r : Rdr) (p x : Nat) (ht : r.table.getD p none = none) : hasB f r p x = Res.no := by
  unfold hasB
  rw [ht]

theorem hasB_bucket (l : Bytes) (r : Rdr) (p x off : Nat) (lay : Lay)
    (ht : r.table.getD p none = some off) (hoff : off < 2^63)
    (hfit : r.base + off + (4 + 8 * lay.size) ≤ l.length)
    (hsl : slice l (r.base + off) (4 + 8 * lay.size) = bucketBytes lay)
    (hsmall : lay.size < 2^29) (hkeys : ∀ i, i < lay.size → (lay.getD i default).1 < 2^64) :
    hasB l.toArray r p x = if searchLay lay x then Res.yes else Res.no := by
  have hrd : ∀ a n, a + n ≤ 4 + 8 * lay.size →
      rd l.toArray (r.base + off + a) n = some (slice (bucketBytes lay) a n) := by
    intro a n h
    rw [rd_toArray, if_pos (by omega), ← hsl, slice_slice _ _ _ _ _ h]
  have hcount : rd l.toArray (r.base + off) 4 = some (le 4 lay.size) := by
    rw [← bucketBytes_count]; exact hrd 0 4 (by omega)
  unfold hasB
  rw [ht]
  simp only []
  rw [if_neg (by omega), if_neg (by omega), hcount]
  simp only []
  rw [unle_le4 _ (by omega), Nat.mod_eq_of_lt (by omega : lay.size * 8 < 2^32), searchB_eq lay _ x ?_ (lay.size + 1) 0]
  · rfl
  · intro i hi
    rw [if_pos (by omega), Nat.add_assoc _ 4, hrd _ 8 (by omega), bucketBytes_hash lay i hi, Option.map_some,
      unle_le8 _ (hkeys i hi)]

/-- `Reader.Has` over the bytes `Seal` wrote answers what the abstract reader answers (no error, same verdict) -/
theorem hasB_encode (fmt : Fmt) (m : MetaKVs) (sd : Sealed) (hok : SealedOk sd)
    (hlen : (encode fmt m sd).length < 2^63) (p x : Nat) (hp : p < numPrefixes) :
    hasB (encode fmt m sd).toArray
        ⟨fmt, setAll (entries fmt sd) 0 initTable, (headerBytes fmt m (entries fmt sd)).length, m⟩ p x
      = if hasA sd p x then Res.yes else Res.no := by
  rw [encode, List.length_append] at hlen
  rw [hasA]
  -- the table hypothesis of `hasB_none` / `hasB_bucket` is left as a goal so that the reader is known before it is elaborated
  cases hs : sd.getD p none with
  | none =>
    refine (hasB_none _ _ p x ?_).trans rfl
    refine (setAll_not_mem _ 0 _ p fun e he h => ?_).trans (initTable_getD p)
    have := (entries_key fmt sd e he).2
    rw [h, hs] at this
    cases this
  | some lay =>
    obtain ⟨o, ho, hfit, hsl⟩ := setAll_mem _ 0 initTable p lay (entries_nodup fmt sd)
      (fun e he => Nat.lt_of_lt_of_eq (entries_key fmt sd e he).1 initTable_size.symm) ((mem_entries fmt sd p lay).2 ⟨hp, hs⟩)
    rw [Nat.zero_add, Nat.mod_eq_of_lt (by omega)] at ho
    refine (hasB_bucket _ _ p x o lay ?_ (by omega) ?_ ?_ (hok.small p lay hs) (hok.keys p lay hs)).trans rfl
    · exact ho
    · rw [encode, List.length_append, Nat.add_assoc]; exact Nat.add_le_add_left hfit _
    · exact (slice_append_right _ _ o _).trans hsl

theorem layoutOf_key_mem (l : List Nat) (i : Nat) (hi : i < (layoutOf l).size) :
    ((layoutOf l).getD i default).1 ∈ l := by
  rw [size_layoutOf] at hi
  obtain ⟨j, hj, he⟩ := Eytz.layout_getD_mem ((cleanSet l).map fun x => (x, ())).toArray i (by simpa using hi)
  have hj' : j < (cleanSet l).length := by simpa using hj
  rw [layoutOf, he, pairs_getD _ j hj']
  exact (mem_cleanSet _ l).1 (List.getElem_mem hj')

theorem dedupFrom_length_le (prev : Nat) (l : List Nat) : (dedupFrom prev l).length ≤ l.length := by
  induction l generalizing prev with
  | nil => simp [dedupFrom]
  | cons y r ih =>
    rw [dedupFrom]
    by_cases e : y = prev
    · rw [if_pos e]; have := ih prev; simp; omega
    · rw [if_neg e]; have := ih y; simp; omega

/-- `numHashes` of a bucket never exceeds the number of `Put`s into it -/
theorem cleanSet_length_le (l : List Nat) : (cleanSet l).length ≤ l.length := by
  unfold cleanSet
  have hm := List.length_mergeSort (le := fun a b => decide (a ≤ b)) l
  cases hs : l.mergeSort (fun a b => decide (a ≤ b)) with
  | nil => simp [dedup]
  | cons y r =>
    rw [hs] at hm
    have := dedupFrom_length_le y r
    simp only [dedup, List.length_cons] at *
    omega

theorem sealBucket_some (fmt : Fmt) (b : List Nat) (lay : Lay) (h : sealBucket fmt b = some lay) : lay = layoutOf b := by
  cases fmt with
  | v2 => simpa [sealBucket] using h.symm
  | v1 =>
    simp only [sealBucket] at h
    split at h
    · simp at h
    · simpa using h.symm

/-- sealed buckets satisfy the size hypotheses when the hash is 64-bit and no bucket has 2^29 distinct hashes -/
theorem sealedOk_sealA (fmt : Fmt) (w : Buckets)
    (hk : ∀ p x, x ∈ w.getD p [] → x < 2^64)
    (hsmall : ∀ p, (cleanSet (w.getD p [])).length < 2^29) : SealedOk (sealA fmt w) := by
  have key : ∀ p lay, (sealA fmt w).getD p none = some lay → lay = layoutOf (w.getD p []) := by
    intro p lay h
    by_cases hp : p < w.size
    · rw [getD_sealA fmt w p hp] at h
      exact sealBucket_some fmt _ lay h
    · simp [sealA, Array.getD, hp] at h
  constructor
  · intro p lay h
    rw [key p lay h, size_layoutOf]
    exact hsmall p
  · intro p lay h i hi
    rw [key p lay h] at hi ⊢
    exact hk p _ (layoutOf_key_mem _ i hi)

theorem tableFrom_length (es : List (Nat × Lay)) (off : Nat) : (tableFrom es off).length = 10 * es.length := by
  induction es generalizing off with
  | nil => rfl
  | cons e r ih => simp only [tableFrom, List.length_append, le_length, ih, List.length_cons]; omega

theorem headerRest_length (fmt : Fmt) (m : MetaKVs) (es : List (Nat × Lay)) :
    (headerRest fmt m es).length = 24 + (metaBytes fmt m).length + 10 * es.length := by
  simp only [headerRest, List.length_append, le_length, magicOf_length, tableFrom_length]; omega

theorem bodyBytes_length_le (es : List (Nat × Lay)) (h : ∀ e ∈ es, e.2.size < 2^29) :
    (bodyBytes es).length ≤ es.length * (4 + 8 * 2^29) := by
  induction es with
  | nil => simp [bodyBytes]
  | cons e r ih =>
    rw [bodyBytes_cons, List.length_append, bucketBytes_length, List.length_cons, Nat.succ_mul]
    have := ih (fun e' he' => h e' (List.mem_cons_of_mem _ he'))
    have := h e (List.mem_cons_self ..)
    omega

/-- a bucket never holds more hashes than there were `Put`s -/
theorem bucket_length_le (h : Sig → Nat) (sigs : List Sig) (w : Buckets) (p : Nat) :
    ((sigs.foldl (put h) w).getD p []).length ≤ (w.getD p []).length + sigs.length := by
  induction sigs generalizing w with
  | nil => simp
  | cons s r ih =>
    rw [List.foldl_cons]
    refine Nat.le_trans (ih (put h w s)) ?_
    by_cases hp : p < w.size
    · rw [getD_put h w s p hp]
      by_cases e : prefixOf s = p
      · simp [e]; omega
      · simp [e]
    · have : (put h w s).getD p [] = [] := by simp [Array.getD, size_put, hp]
      rw [this]; simp; omega

/-- the explicit size hypotheses of the file (header length in `uint32`, offsets in `int64`) follow from a
    metadata bound and the per-bucket bound -/
theorem sizes_ok (fmt : Fmt) (m : MetaKVs) (sd : Sealed) (hok : SealedOk sd)
    (hmeta : (metaBytes fmt m).length < 2^31) :
    (headerRest fmt m (entries fmt sd)).length < 2^32 ∧ (encode fmt m sd).length < 2^63 := by
  have hn := entries_length_le fmt sd
  have hb := bodyBytes_length_le (entries fmt sd) (fun e he => hok.small e.1 e.2 (entries_key fmt sd e he).2)
  have hr := headerRest_length fmt m (entries fmt sd)
  simp only [numPrefixes] at hn
  have hmul : (entries fmt sd).length * (4 + 8 * 2^29) ≤ 65536 * (4 + 8 * 2^29) := Nat.mul_le_mul_right _ hn
  constructor
  · omega
  · rw [encode, List.length_append, headerBytes, List.length_append, le_length]; omega

end BK
