/-!
`sync.RWMutex` as the threads of package main use `MultiEpoch.mu` (property C09): a thread is the list of lock operations it
still has to perform, `stepTh` says when the next one is enabled.  Readers share; a writer excludes everybody; a thread that
has called `Lock()` and waits blocks every new `RLock()` (Go's writer preference — the reason a nested `RLock` can
deadlock); `Unlock`/`RUnlock` never block.  `RUnlock` at depth 0 leaves the depth at 0, where Go stops the process with a
fatal error: programs that do that are outside `Pairs`.  The process of many threads is in `Lib/RWSys.lean`.
-/
namespace RW

inductive Op where
  | rlock | runlock | lock | unlock
deriving DecidableEq, Repr

structure Th where
  prog    : List Op
  rdepth  : Nat      -- read locks held
  holdsW  : Bool
  waiting : Bool     -- has announced Lock() and is blocked in it
deriving DecidableEq, Repr

abbrev St := List Th

def noWriterOrWaiter (s : St) : Bool := s.all fun t => !t.holdsW && !t.waiting
def noHolder (s : St) : Bool := s.all fun t => t.rdepth == 0 && !t.holdsW

/-- what thread `t` (in state `s`) can do next; `none` = blocked or finished -/
def stepTh (s : St) (t : Th) : Option Th :=
  match t.prog with
  | [] => none
  | .rlock :: p => if noWriterOrWaiter s then some { t with prog := p, rdepth := t.rdepth + 1 } else none
  | .runlock :: p => some { t with prog := p, rdepth := t.rdepth - 1 }
  | .lock :: p =>
      if !t.waiting then some { t with waiting := true }          -- announce (always possible)
      else if noHolder s then some { t with prog := p, waiting := false, holdsW := true } else none
  | .unlock :: p => some { t with prog := p, holdsW := false }

def finished (s : St) : Bool := s.all fun t => t.prog.isEmpty
def canStep (s : St) : Bool := s.any fun t => (stepTh s t).isSome

/-- sequences of non-nested critical sections -/
def Pairs : List Op → Prop
  | [] => True
  | .rlock :: .runlock :: p => Pairs p
  | .lock :: .unlock :: p => Pairs p
  | _ => False

/-- per-thread invariant for non-nesting programs: idle, waiting for the write lock, holding a read lock, holding the
    write lock -/
def Good (t : Th) : Prop :=
  (t.rdepth = 0 ∧ t.holdsW = false ∧ t.waiting = false ∧ Pairs t.prog) ∨
  (t.rdepth = 0 ∧ t.holdsW = false ∧ t.waiting = true ∧ ∃ p, t.prog = .lock :: .unlock :: p ∧ Pairs p) ∨
  (t.rdepth = 1 ∧ t.holdsW = false ∧ t.waiting = false ∧ ∃ p, t.prog = .runlock :: p ∧ Pairs p) ∨
  (t.rdepth = 0 ∧ t.holdsW = true ∧ t.waiting = false ∧ ∃ p, t.prog = .unlock :: p ∧ Pairs p)

theorem Pairs.inv {p : List Op} (h : Pairs p) :
    p = [] ∨ ∃ q, Pairs q ∧ (p = .rlock :: .runlock :: q ∨ p = .lock :: .unlock :: q) := by
  unfold Pairs at h
  split at h
  · exact .inl rfl
  · exact .inr ⟨_, h, .inl rfl⟩
  · exact .inr ⟨_, h, .inr rfl⟩
  · exact h.elim

theorem good_step (s : St) (t t' : Th) (hg : Good t) (h : stepTh s t = some t') : Good t' := by
  unfold stepTh at h
  rcases hg with ⟨h1, h2, h3, h4⟩ | ⟨h1, h2, h3, p, hp, h4⟩ | ⟨h1, h2, h3, p, hp, h4⟩ | ⟨h1, h2, h3, p, hp, h4⟩
  · -- idle
    rcases h4.inv with hp | ⟨q, hq, hp | hp⟩
    · simp [hp] at h
    · simp only [hp] at h
      split at h
      · cases h; exact .inr (.inr (.inl ⟨by simp [h1], h2, h3, q, rfl, hq⟩))
      · cases h
    · simp [hp, h3] at h
      subst h; exact .inr (.inl ⟨h1, h2, rfl, q, rfl, hq⟩)
  · -- waiting
    rw [hp] at h
    simp [h3] at h
    obtain ⟨_, rfl⟩ := h
    exact .inr (.inr (.inr ⟨h1, rfl, rfl, p, rfl, h4⟩))
  · -- holds R
    rw [hp] at h
    cases h; exact .inl ⟨by simp [h1], h2, h3, h4⟩
  · -- holds W
    rw [hp] at h
    cases h; exact .inl ⟨h1, rfl, h3, h4⟩

/-- progress: with non-nesting programs some thread can always move unless all are done -/
theorem progress (s : St) (hg : ∀ t ∈ s, Good t) (hnf : finished s = false) : canStep s = true := by
  unfold canStep
  rw [List.any_eq_true]
  by_cases hH : noHolder s = true
  · by_cases hW : noWriterOrWaiter s = true
    · -- nobody holds, nobody waits
      obtain ⟨t, ht, hne⟩ := List.all_eq_false.mp hnf
      refine ⟨t, ht, ?_⟩
      have hw := List.all_eq_true.mp hW t ht
      have hh := List.all_eq_true.mp hH t ht
      rcases hg t ht with ⟨_, _, h3, h4⟩ | ⟨_, _, h3, _⟩ | ⟨h1, _, _, _⟩ | ⟨_, h2, _, _⟩
      · rcases h4.inv with hp | ⟨q, _, hp | hp⟩
        · simp [hp] at hne
        · simp [stepTh, hp, hW]
        · simp [stepTh, hp, h3]
      · simp [h3] at hw
      · simp [h1] at hh
      · simp [h2] at hh
    · -- nobody holds, somebody waits
      obtain ⟨t, ht, hw⟩ := List.all_eq_false.mp (Bool.eq_false_iff.mpr hW)
      refine ⟨t, ht, ?_⟩
      have hh := List.all_eq_true.mp hH t ht
      rcases hg t ht with ⟨_, h2, h3, _⟩ | ⟨_, _, h3, p, hp, _⟩ | ⟨h1, _, _, _⟩ | ⟨_, h2, _, _⟩
      · simp [h2, h3] at hw
      · simp [stepTh, hp, h3, hH]
      · simp [h1] at hh
      · simp [h2] at hh
  · -- somebody holds: that thread's next op is a release, always enabled
    obtain ⟨t, ht, hhold⟩ := List.all_eq_false.mp (Bool.eq_false_iff.mpr hH)
    refine ⟨t, ht, ?_⟩
    rcases hg t ht with ⟨h1, h2, _, _⟩ | ⟨h1, h2, _, _⟩ | ⟨_, _, _, p, hp, _⟩ | ⟨_, _, _, p, hp, _⟩
    · simp [h1, h2] at hhold
    · simp [h1, h2] at hhold
    · simp [stepTh, hp]
    · simp [stepTh, hp]

/-- the nested read lock of the pinned tree: a stuck state (the `example` below); that it is reachable is
    `RW.nested_rlock_can_deadlock` in `Lib/RWSys.lean` -/
def nestedStuck : St :=
  [ { prog := [.rlock, .runlock, .runlock], rdepth := 1, holdsW := false, waiting := false },   -- after first RLock
    { prog := [.lock, .unlock], rdepth := 0, holdsW := false, waiting := true } ]               -- writer announced

example : finished nestedStuck = false ∧ canStep nestedStuck = false := by decide

end RW
