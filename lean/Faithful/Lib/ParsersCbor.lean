import Faithful.Lib.Ledger

/-!
C12 — the seven hand-written CBOR node decoders, REPAIRED (fixes/C12-*.patch for `ipld/ipldbindcode/cbor.go`).

`Ledger.Fast.decode` (property C11's model of `cbor.go`, not edited here) keeps the unchecked type assertions and the
unchecked `rawBytes[1:]` of the pinned code as explicit `panic` outcomes.  `FastFixed` re-states exactly the functions
that contain one of those sites — with the `ok` check / length check the patch adds — and re-uses every other definition
of `Ledger.Fast` unchanged.  Proved here (`np_decode`, `ref_decode`; restated in `Properties/C12.lean`): `FastFixed.decode`
never panics, over every CBOR tree, and it agrees with `Fast.decode` wherever the latter does not panic (the repair changes
nothing else).  `decodeLimited` and the two `…_ok_of_pinned_ok` lemmas are what property C11 uses.
-/
namespace Ledger
namespace FastFixed
open Cbor Fast

/-- repaired link body: `if len(rawBytes) == 0 { return error }` before `rawBytes[1:]` -/
def linkOf : Val → Outcome Cid
  | .tag n c =>
    if builtinTag n then .err "expected cbor.Tag"
    else if n ≠ 42 then .err s!"expected cbor tag number 42, got {n}"
    else match c with
      | .bytes [] => .err "expected cbor tag content to be a prefixed cid, got an empty byte string"
      | .bytes (_ :: rest) =>
        (match Cid.fromBytes rest with
         | some (_, cid) => .ok cid
         | none => .err "failed to cast cbor tag content to cid.Cid")
      | _ => .err "expected cbor tag content to be []byte"
  | _ => .err "expected cbor.Tag"

def linkLoop : List Cid → List Val → Outcome (List Cid)
  | acc, [] => .ok acc.reverse
  | acc, v :: vs =>
    match linkOf v with
    | .ok c => linkLoop (c :: acc) vs
    | .err e => .err e
    | .panic w => .panic w

def linkList (v : Val) : Outcome (List Cid) :=
  if isNil v then .ok []
  else match v with
    | .arr xs => linkLoop [] xs
    | _ => .err "expected subsets to be []interface{}"

def reqLinks (arr : List Val) (i : Nat) (name : String) : Outcome (List Cid) :=
  match get arr i with
  | some v => linkList v
  | none => .err s!"expected {name} to be present"

def dataFrameFromArray (arr : List Val) : Outcome DataFrame := do
  let kind ← readKind arr 6
  let hash ← optInt arr 1
  let index ← optInt arr 2
  let total ← optInt arr 3
  let data ← match get arr 4 with
    | some (.bytes b) => Outcome.ok b
    | some _ => .err "expected cbor tag content to be []byte"
    | none => .err "expected data to be present"
  let next ← match get arr 5 with
    | some v => do let l ← linkList v; Outcome.ok (some (some l))
    | none => Outcome.ok none
  return { kind, hash, index, total, data, next }

/-- repaired: `dataSlice, ok := data.([]interface{}); if !ok { return error }` -/
def nestedDataFrame (arr : List Val) (i : Nat) (name : String) : Outcome DataFrame :=
  match get arr i with
  | some (.arr d) => dataFrameFromArray d
  | some _ => .err s!"expected {name} to be a list"
  | none => .err s!"expected {name} to be present"

def unmarshalDataFrame (v : Val) : Outcome DataFrame := do
  let arr ← topArray 64 v
  dataFrameFromArray arr

def unmarshalEpoch (v : Val) : Outcome Epoch := do
  let arr ← topArray 64 v
  let kind ← readKind arr 4
  let epoch ← reqInt arr 1 "epoch"
  let subsets ← reqLinks arr 2 "subsets"
  return { kind, epoch, subsets }

def unmarshalSubset (v : Val) : Outcome Subset := do
  let arr ← topArray 64 v
  let kind ← readKind arr 3
  let first ← reqInt arr 1 "first"
  let last ← reqInt arr 2 "last"
  let blocks ← reqLinks arr 3 "blocks"
  return { kind, first, last, blocks }

def unmarshalBlock (v : Val) : Outcome Block := do
  let arr ← topArray 64 v
  let kind ← readKind arr 2
  let slot ← reqInt arr 1 "slot"
  let shredding ← match get arr 2 with
    | some (.arr xs) => shreddingLoop [] xs
    | some _ => .err "expected shredding to be []interface{}"
    | none => .err "expected shredding to be present"
  let entries ← reqLinks arr 3 "entries"
  -- repaired: `metaSlice, ok := meta.([]interface{}); if !ok { return error }`
  let smeta ← match get arr 4 with
    | some (.arr m) => do
      let p ← reqInt m 0 "parent_slot"
      let b ← reqInt m 1 "blocktime"
      let h ← optInt m 2
      Outcome.ok (SlotMeta.mk p b h)
    | some _ => .err "expected meta to be a list"
    | none => .err "expected meta to be present"
  let rewards ← match get arr 5 with
    | some r => linkOf r
    | none => .err "expected rewards to be present"
  return { kind, slot, shredding, entries, smeta, rewards }

def unmarshalRewards (v : Val) : Outcome Rewards := do
  let arr ← topArray 64 v
  let kind ← readKind arr 5
  let slot ← reqInt arr 1 "slot"
  let data ← nestedDataFrame arr 2 "data"
  return { kind, slot, data }

def unmarshalEntry (v : Val) : Outcome Entry := do
  let arr ← topArray 64 v
  let kind ← readKind arr 1
  let numHashes ← reqInt arr 1 "num_hashes"
  -- repaired: `h, ok := hash.([]byte); if !ok { return error }`
  let hash ← match get arr 2 with
    | some (.bytes h) => Outcome.ok h
    | some _ => .err "expected hash to be []byte"
    | none => .err "expected hash to be present"
  let transactions ← reqLinks arr 3 "transactions"
  return { kind, numHashes, hash, transactions }

def unmarshalTransaction (v : Val) : Outcome Transaction := do
  let arr ← topArray 64 v
  let kind ← readKind arr 0
  let data ← nestedDataFrame arr 1 "data"
  let metadata ← nestedDataFrame arr 2 "metadata"
  let slot ← reqInt arr 3 "slot"
  let index ← optInt arr 4
  return { kind, data, metadata, slot, index }

/-- `iplddecoders.Decode<Kind>` over the repaired `UnmarshalCBOR` methods -/
def decode (k : Kind) (v : Val) : Outcome Node :=
  match k with
  | .transaction => do let x ← unmarshalTransaction v; checkKind k x.kind; return .transaction x
  | .entry => do let x ← unmarshalEntry v; checkKind k x.kind; return .entry x
  | .block => do let x ← unmarshalBlock v; checkKind k x.kind; return .block x
  | .subset => do let x ← unmarshalSubset v; checkKind k x.kind; return .subset x
  | .epoch => do let x ← unmarshalEpoch v; checkKind k x.kind; return .epoch x
  | .rewards => do let x ← unmarshalRewards v; checkKind k x.kind; return .rewards x
  | .dataFrame => do let x ← unmarshalDataFrame v; checkKind k x.kind; return .dataFrame x

/-- the outcome is not a panic -/
def NP {α : Type} (o : Outcome α) : Prop := ∀ w, o ≠ .panic w

theorem np_ok {α : Type} {a : α} : NP (Outcome.ok a) := fun _ h => by cases h
theorem np_err {α : Type} {e : String} : NP (Outcome.err e : Outcome α) := fun _ h => by cases h
theorem np_bind {α β : Type} {x : Outcome α} {f : α → Outcome β} (hx : NP x) (hf : ∀ a, NP (f a)) : NP (x >>= f) := by
  cases x with
  | ok a => exact hf a
  | err e => exact np_err
  | panic w => exact absurd rfl (hx w)

theorem np_topArray : ∀ (fuel : Nat) (v : Val), NP (topArray fuel v) := by
  intro fuel
  induction fuel with
  | zero => intro v; cases v <;> first | exact np_ok | exact np_err
  | succ n ih =>
    intro v
    cases v <;> first | exact np_ok | exact np_err | exact ih _

theorem np_getUint64 {v : Val} : NP (getUint64 v) := by
  unfold getUint64
  split
  · exact np_ok
  · split <;> first | exact np_ok | exact np_err
  · exact np_err

macro "np_leaf" : tactic => `(tactic| first
  | exact np_ok | exact np_err)

theorem np_readKind {arr : List Val} {w : Int} : NP (readKind arr w) := by
  unfold readKind
  split
  · refine np_bind np_getUint64 (fun u => ?_)
    dsimp only
    split <;> np_leaf
  · exact np_err

theorem np_reqInt {arr : List Val} {i : Nat} {n : String} : NP (reqInt arr i n) := by
  unfold reqInt
  split
  · exact np_bind np_getUint64 (fun u => np_ok)
  · exact np_err

theorem np_optIntOf {v : Val} : NP (optIntOf v) := by
  unfold optIntOf
  split
  · exact np_ok
  · exact np_bind np_getUint64 (fun u => np_ok)

theorem np_optInt {arr : List Val} {i : Nat} : NP (optInt arr i) := by
  unfold optInt
  split
  · exact np_optIntOf
  · exact np_ok

theorem np_linkOf {v : Val} : NP (linkOf v) := by
  unfold linkOf
  split
  · split; · exact np_err
    split; · exact np_err
    split
    · exact np_err
    · split <;> np_leaf
    · exact np_err
  · exact np_err

theorem np_linkLoop : ∀ (vs : List Val) (acc : List Cid), NP (linkLoop acc vs) := by
  intro vs
  induction vs with
  | nil => intro acc; exact np_ok
  | cons v vs ih =>
    intro acc
    unfold linkLoop
    split
    · exact ih _
    · exact np_err
    · rename_i w hw
      exact absurd hw (np_linkOf w)

theorem np_linkList {v : Val} : NP (linkList v) := by
  unfold linkList
  split; · exact np_ok
  split
  · exact np_linkLoop _ _
  · exact np_err

theorem np_reqLinks {arr : List Val} {i : Nat} {n : String} : NP (reqLinks arr i n) := by
  unfold reqLinks
  split
  · exact np_linkList
  · exact np_err

theorem np_shreddingOf {v : Val} : NP (shreddingOf v) := by
  unfold shreddingOf
  split
  · exact np_bind np_reqInt (fun _ => np_bind np_reqInt (fun _ => np_ok))
  · exact np_err

theorem np_shreddingLoop : ∀ (vs : List Val) (acc : List Shredding), NP (shreddingLoop acc vs) := by
  intro vs
  induction vs with
  | nil => intro acc; exact np_ok
  | cons v vs ih =>
    intro acc
    unfold shreddingLoop
    split
    · exact ih _
    · exact np_err
    · rename_i w hw
      exact absurd hw (np_shreddingOf w)

theorem np_checkKind {k : Kind} {g : Int} : NP (checkKind k g) := by
  unfold checkKind
  split <;> np_leaf

/-! Each decoder is a chain of field reads: each proof lists the fact for every field. -/

theorem np_dataFrameFromArray {arr : List Val} : NP (dataFrameFromArray arr) := by
  unfold dataFrameFromArray
  refine np_bind np_readKind fun _ => np_bind np_optInt fun _ => np_bind np_optInt fun _ =>
    np_bind np_optInt fun _ => ?_
  dsimp only
  split <;> try exact np_err
  refine np_bind np_ok fun _ => ?_
  split
  · exact np_bind np_linkList fun _ => np_bind np_ok fun _ => np_ok
  · exact np_ok

theorem np_nestedDataFrame {arr : List Val} {i : Nat} {n : String} : NP (nestedDataFrame arr i n) := by
  unfold nestedDataFrame
  split
  · exact np_dataFrameFromArray
  · exact np_err
  · exact np_err

theorem np_unmarshalDataFrame {v : Val} : NP (unmarshalDataFrame v) :=
  np_bind (np_topArray _ _) fun _ => np_dataFrameFromArray

theorem np_unmarshalEpoch {v : Val} : NP (unmarshalEpoch v) :=
  np_bind (np_topArray _ _) fun _ => np_bind np_readKind fun _ => np_bind np_reqInt fun _ =>
    np_bind np_reqLinks fun _ => np_ok

theorem np_unmarshalSubset {v : Val} : NP (unmarshalSubset v) :=
  np_bind (np_topArray _ _) fun _ => np_bind np_readKind fun _ => np_bind np_reqInt fun _ =>
    np_bind np_reqInt fun _ => np_bind np_reqLinks fun _ => np_ok

theorem np_unmarshalBlock {v : Val} : NP (unmarshalBlock v) := by
  unfold unmarshalBlock
  refine np_bind (np_topArray _ _) fun arr => np_bind np_readKind fun _ => np_bind np_reqInt fun _ => ?_
  dsimp only
  split <;> try exact np_err
  refine np_bind (np_shreddingLoop _ _) fun _ => np_bind np_reqLinks fun _ => ?_
  split <;> try exact np_err
  refine np_bind np_reqInt fun _ => np_bind np_reqInt fun _ => np_bind np_optInt fun _ =>
    np_bind np_ok fun _ => ?_
  split <;> try exact np_err
  exact np_bind np_linkOf fun _ => np_ok

theorem np_unmarshalRewards {v : Val} : NP (unmarshalRewards v) :=
  np_bind (np_topArray _ _) fun _ => np_bind np_readKind fun _ => np_bind np_reqInt fun _ =>
    np_bind np_nestedDataFrame fun _ => np_ok

theorem np_unmarshalEntry {v : Val} : NP (unmarshalEntry v) := by
  unfold unmarshalEntry
  refine np_bind (np_topArray _ _) fun arr => np_bind np_readKind fun _ => np_bind np_reqInt fun _ => ?_
  dsimp only
  split <;> try exact np_err
  exact np_bind np_ok fun _ => np_bind np_reqLinks fun _ => np_ok

theorem np_unmarshalTransaction {v : Val} : NP (unmarshalTransaction v) :=
  np_bind (np_topArray _ _) fun _ => np_bind np_readKind fun _ => np_bind np_nestedDataFrame fun _ =>
    np_bind np_nestedDataFrame fun _ => np_bind np_reqInt fun _ => np_bind np_optInt fun _ =>
    np_ok

theorem np_checked {α : Type} {x : Outcome α} {k : Kind} {g : α → Int} {mk : α → Node} (h : NP x) :
    NP (do let a ← x; Fast.checkKind k (g a); return mk a) :=
  np_bind h fun _ => np_bind np_checkKind fun _ => np_ok

theorem np_decode (k : Kind) (v : Val) : NP (decode k v) := by
  cases k
  · exact np_checked np_unmarshalTransaction
  · exact np_checked np_unmarshalEntry
  · exact np_checked np_unmarshalBlock
  · exact np_checked np_unmarshalSubset
  · exact np_checked np_unmarshalEpoch
  · exact np_checked np_unmarshalRewards
  · exact np_checked np_unmarshalDataFrame

/-! ### the repair changes nothing but the panics -/

/-- `pinned` is the same outcome as `fixed`, or a panic -/
def Refines {α : Type} (fixed pinned : Outcome α) : Prop := pinned = fixed ∨ ∃ w, pinned = .panic w

theorem refines_refl {α : Type} {a : Outcome α} : Refines a a := Or.inl rfl
theorem refines_panic {α : Type} {a : Outcome α} {w : String} : Refines a (.panic w) := Or.inr ⟨w, rfl⟩
theorem refines_bind {α β : Type} {x x' : Outcome α} {f f' : α → Outcome β}
    (hx : Refines x x') (hf : ∀ a, Refines (f a) (f' a)) : Refines (x >>= f) (x' >>= f') := by
  rcases hx with h | ⟨w, h⟩
  · subst h
    cases x' with
    | ok a => exact hf a
    | err e => exact Or.inl rfl
    | panic w => exact Or.inr ⟨w, rfl⟩
  · subst h; exact Or.inr ⟨w, rfl⟩

theorem refines_bind_same {α β : Type} {x : Outcome α} {f f' : α → Outcome β} (hf : ∀ a, Refines (f a) (f' a)) :
    Refines (x >>= f) (x >>= f') := refines_bind refines_refl hf

/-! A field read whose continuation is pushed into the arms of a `match`.  The fixed side is the `match` of this file, the
pinned side that of `Ledger.lean`, which is another constant although the patterns are the same: it is named here. -/

/-- `refines_refl` at this instance, about variables: at a use `f`, `f'` are the two decoders' continuations, large terms
    that differ deep inside, and `exact refines_refl` makes the kernel compare them before it reduces `err e >>= _` -/
theorem refines_err_bind {α β : Type} {e : String} {f f' : α → Outcome β} :
    Refines (Outcome.err e >>= f) (Outcome.err e >>= f') := refines_refl

theorem ref_arrField {β : Type} {o : Option Val} {k k' : List Val → Outcome β} {e e' n n' : Outcome β}
    (hk : ∀ m, Refines (k m) (k' m)) (he : Refines e e') (hn : Refines n n') :
    Refines (match o with | some (.arr m) => k m | some _ => e | none => n)
      (Fast.nestedDataFrame.match_1 (fun _ => Outcome β) o k' (fun _ => e') fun _ => n') := by
  cases o with
  | none => exact hn
  | some d => cases d <;> first | exact hk _ | exact he

theorem ref_bytesField {β : Type} {o : Option Val} {k k' : Bytes → Outcome β} {e e' n n' : Outcome β}
    (hk : ∀ b, Refines (k b) (k' b)) (he : Refines e e') (hn : Refines n n') :
    Refines (match o with | some (.bytes b) => k b | some _ => e | none => n)
      (Fast.dataFrameFromArray.match_1 (fun _ => Outcome β) o k' (fun _ => e') fun _ => n') := by
  cases o with
  | none => exact hn
  | some d => cases d <;> first | exact hk _ | exact he

theorem ref_optField {β : Type} {o : Option Val} {k k' : Val → Outcome β} {n n' : Outcome β}
    (hk : ∀ v, Refines (k v) (k' v)) (hn : Refines n n') :
    Refines (match o with | some v => k v | none => n) (Ref.fill.match_1 (fun _ => Outcome β) o k' fun _ => n') := by
  cases o with
  | none => exact hn
  | some v => exact hk v

theorem ref_linkOf {v : Val} : Refines (linkOf v) (Fast.linkOf v) := by
  cases v <;> simp only [linkOf, Fast.linkOf] <;> try exact refines_refl
  rename_i n c
  by_cases h1 : Fast.builtinTag n = true
  · rw [if_pos h1, if_pos h1]; exact refines_refl
  · rw [if_neg h1, if_neg h1]
    by_cases h2 : n ≠ 42
    · rw [if_pos h2, if_pos h2]; exact refines_refl
    · rw [if_neg h2, if_neg h2]
      cases c <;> try exact refines_refl
      rename_i b
      cases b
      · exact refines_panic
      · exact refines_refl

theorem ref_linkLoop : ∀ (vs : List Val) (acc : List Cid), Refines (linkLoop acc vs) (Fast.linkLoop acc vs) := by
  intro vs
  induction vs with
  | nil => intro acc; exact refines_refl
  | cons v vs ih =>
    intro acc
    unfold linkLoop Fast.linkLoop
    rcases ref_linkOf (v := v) with h | ⟨w, h⟩
    · rw [h]
      generalize linkOf v = o
      cases o with
      | ok c => exact ih _
      | err e => exact refines_refl
      | panic w => exact refines_refl
    · rw [h]
      exact refines_panic

theorem ref_linkList {v : Val} : Refines (linkList v) (Fast.linkList v) := by
  unfold linkList Fast.linkList
  by_cases h : Fast.isNil v = true
  · rw [if_pos h, if_pos h]; exact refines_refl
  · rw [if_neg h, if_neg h]
    cases v <;> first | exact refines_refl | exact ref_linkLoop _ _

theorem ref_reqLinks {arr : List Val} {i : Nat} {n : String} : Refines (reqLinks arr i n) (Fast.reqLinks arr i n) :=
  ref_optField (fun _ => ref_linkList) refines_refl

theorem ref_dataFrameFromArray {arr : List Val} : Refines (dataFrameFromArray arr) (Fast.dataFrameFromArray arr) := by
  unfold dataFrameFromArray Fast.dataFrameFromArray
  refine refines_bind_same fun _ => refines_bind_same fun _ => refines_bind_same fun _ => refines_bind_same fun _ => ?_
  refine ref_bytesField (fun _ => refines_bind_same fun _ => ?_) refines_err_bind refines_err_bind
  exact ref_optField (fun v => refines_bind ref_linkList fun _ => refines_refl) refines_refl

theorem ref_nestedDataFrame {arr : List Val} {i : Nat} {n : String} :
    Refines (nestedDataFrame arr i n) (Fast.nestedDataFrame arr i n) :=
  ref_arrField (fun _ => ref_dataFrameFromArray) refines_panic refines_refl

theorem ref_unmarshalDataFrame {v : Val} : Refines (unmarshalDataFrame v) (Fast.unmarshalDataFrame v) :=
  refines_bind refines_refl (fun _ => ref_dataFrameFromArray)

theorem ref_unmarshalEpoch {v : Val} : Refines (unmarshalEpoch v) (Fast.unmarshalEpoch v) :=
  refines_bind_same fun _ => refines_bind_same fun _ => refines_bind_same fun _ =>
    refines_bind ref_reqLinks fun _ => refines_refl

theorem ref_unmarshalSubset {v : Val} : Refines (unmarshalSubset v) (Fast.unmarshalSubset v) :=
  refines_bind_same fun _ => refines_bind_same fun _ => refines_bind_same fun _ => refines_bind_same fun _ =>
    refines_bind ref_reqLinks fun _ => refines_refl

theorem ref_unmarshalRewards {v : Val} : Refines (unmarshalRewards v) (Fast.unmarshalRewards v) :=
  refines_bind_same fun _ => refines_bind_same fun _ => refines_bind_same fun _ =>
    refines_bind ref_nestedDataFrame fun _ => refines_refl

theorem ref_unmarshalTransaction {v : Val} : Refines (unmarshalTransaction v) (Fast.unmarshalTransaction v) :=
  refines_bind_same fun _ => refines_bind_same fun _ => refines_bind ref_nestedDataFrame fun _ =>
    refines_bind ref_nestedDataFrame fun _ => refines_refl

theorem ref_unmarshalEntry {v : Val} : Refines (unmarshalEntry v) (Fast.unmarshalEntry v) := by
  unfold unmarshalEntry Fast.unmarshalEntry
  refine refines_bind_same fun arr => refines_bind_same fun _ => refines_bind_same fun _ => ?_
  -- `hash`: for anything but bytes the pinned assertion panics
  exact ref_bytesField (fun _ => refines_bind_same fun _ => refines_bind ref_reqLinks fun _ => refines_refl)
    refines_panic refines_err_bind

theorem ref_unmarshalBlock {v : Val} : Refines (unmarshalBlock v) (Fast.unmarshalBlock v) := by
  unfold unmarshalBlock Fast.unmarshalBlock
  refine refines_bind_same fun arr => refines_bind_same fun _ => refines_bind_same fun _ => ?_
  refine ref_arrField (fun xs => refines_bind_same fun _ => refines_bind ref_reqLinks fun _ => ?_) refines_err_bind
    refines_err_bind
  -- `meta`: for anything but a list the pinned assertion panics
  refine ref_arrField (fun m => ?_) refines_panic refines_err_bind
  refine refines_bind_same fun _ => refines_bind_same fun _ => refines_bind_same fun _ => refines_bind_same fun _ => ?_
  exact ref_optField (fun r => refines_bind ref_linkOf fun _ => refines_refl) refines_err_bind

theorem ref_checked {α : Type} {x x' : Outcome α} {k : Kind} {g : α → Int} {mk : α → Node} (h : Refines x x') :
    Refines (do let a ← x; Fast.checkKind k (g a); return mk a) (do let a ← x'; Fast.checkKind k (g a); return mk a) :=
  refines_bind h (fun _ => refines_refl)

/-- the repaired decoders return what the pinned ones return, except where the pinned ones panic -/
theorem ref_decode (k : Kind) (v : Val) : Refines (decode k v) (Fast.decode k v) := by
  cases k <;> unfold decode Fast.decode <;> dsimp only
  · exact ref_checked ref_unmarshalTransaction
  · exact ref_checked ref_unmarshalEntry
  · exact ref_checked ref_unmarshalBlock
  · exact ref_checked ref_unmarshalSubset
  · exact ref_checked ref_unmarshalEpoch
  · exact ref_checked ref_unmarshalRewards
  · exact ref_checked ref_unmarshalDataFrame

/-- the hand-written path of the CURRENT tree from the tree the byte parser would deliver (parser limits first) -/
def decodeLimited (k : Kind) (v : Val) : Outcome Node :=
  if parserAccepts (Cbor.stats 64 v) then decode k v else .err "cbor: exceeded max number of elements / nested levels"

/-- whatever the pinned model decodes successfully the repaired one decodes to the same node -/
theorem decode_ok_of_pinned_ok {k : Kind} {v : Val} {n : Node} (h : Fast.decode k v = .ok n) : decode k v = .ok n := by
  rcases ref_decode k v with h' | ⟨w, h'⟩
  · rw [← h', h]
  · rw [h] at h'; cases h'

theorem decodeLimited_ok_of_pinned_ok {k : Kind} {v : Val} {n : Node} (h : Fast.decodeLimited k v = .ok n) :
    decodeLimited k v = .ok n := by
  unfold Fast.decodeLimited at h; unfold decodeLimited
  split
  · rename_i hp; rw [if_pos hp] at h; exact decode_ok_of_pinned_ok h
  · rename_i hp; rw [if_neg hp] at h; cases h

end FastFixed
end Ledger
