/-! The collector loop of /repo/first-success.go as a function of the results in arrival order; the goroutines around
it are `Faithful/Lib/FirstSuccessSys.lean`. -/
namespace FS

inductive Out (V E : Type) where
  | ok : V → Out V E
  | err : E → Out V E

variable {V E : Type}

/-- the collector loop of FirstSuccess over the results in arrival order; `n` = len(fns) -/
def collect (n : Nat) : List E → List (Out V E) → Except (List E) V
  | errs, [] => .error errs                       -- channel closed after every job has sent
  | _, .ok v :: _ => .ok v
  | errs, .err e :: rest =>
    if (errs ++ [e]).length = n then .error (errs ++ [e]) else collect n (errs ++ [e]) rest

def isOk : Out V E → Bool | .ok _ => true | .err _ => false

theorem collect_sound (n : Nat) (errs : List E) (l : List (Out V E)) (v : V)
    (h : collect n errs l = .ok v) : Out.ok v ∈ l := by
  induction l generalizing errs with
  | nil => simp [collect] at h
  | cons x rest ih =>
    cases x with
    | ok w => simp [collect] at h; subst h; exact List.mem_cons_self ..
    | err e =>
      simp only [collect] at h
      split at h
      · cases h
      · exact List.mem_cons_of_mem _ (ih _ h)

/-- if some job succeeded and the collector has seen fewer than n errors so far, it returns a success -/
theorem collect_complete (n : Nat) (errs : List E) (l : List (Out V E))
    (hlen : errs.length + l.length = n) (hex : ∃ x ∈ l, isOk x = true) :
    ∃ v, collect n errs l = .ok v := by
  induction l generalizing errs with
  | nil => obtain ⟨x, hx, _⟩ := hex; cases hx
  | cons x rest ih =>
    cases x with
    | ok w => exact ⟨w, by simp [collect]⟩
    | err e =>
      obtain ⟨y, hy, hyok⟩ := hex
      have hy' : y ∈ rest := by
        rcases List.mem_cons.mp hy with h | h
        · subst h; simp [isOk] at hyok
        · exact h
      have hrest : 0 < rest.length := List.length_pos_of_mem hy'
      simp only [collect]
      have : ¬ (errs ++ [e]).length = n := by simp at hlen ⊢; omega
      simp only [this, if_false]
      exact ih (errs ++ [e]) (by simp at hlen ⊢; omega) ⟨y, hy', hyok⟩

def errsOf : List (Out V E) → List E
  | [] => []
  | .ok _ :: r => errsOf r
  | .err e :: r => e :: errsOf r

/-- if every job failed, the complete list of errors comes back, in arrival order -/
theorem collect_all_fail (n : Nat) (errs : List E) (l : List (Out V E))
    (hlen : errs.length + l.length = n) (hall : ∀ x ∈ l, isOk x = false) :
    collect n errs l = .error (errs ++ errsOf l) := by
  induction l generalizing errs with
  | nil => simp [collect, errsOf]
  | cons x rest ih =>
    cases x with
    | ok w => have := hall (.ok w) (List.mem_cons_self ..); simp [isOk] at this
    | err e =>
      simp only [collect, errsOf]
      split
      · rename_i hfull
        have : rest = [] := by
          have : rest.length = 0 := by simp at hlen hfull; omega
          exact List.length_eq_zero_iff.mp this
        subst this; simp [errsOf]
      · rw [ih (errs ++ [e]) (by simp at hlen ⊢; omega) (fun y hy => hall y (List.mem_cons_of_mem _ hy))]
        simp

theorem collect_prefix_ok (n : Nat) (v : V) (post : List (Out V E)) :
    ∀ (pre errs0 : List E), errs0.length + pre.length < n →
      collect n errs0 (pre.map Out.err ++ Out.ok v :: post) = .ok v := by
  intro pre
  induction pre with
  | nil => intro errs0 _; simp [collect]
  | cons e pre ih =>
    intro errs0 h
    simp only [List.map_cons, List.cons_append, collect]
    have : ¬ (errs0 ++ [e]).length = n := by simp at h ⊢; omega
    rw [if_neg this]
    exact ih (errs0 ++ [e]) (by simp at h ⊢; omega)

theorem errsOf_map_err (es : List E) : errsOf (es.map (Out.err (V := V))) = es := by
  induction es with
  | nil => rfl
  | cons e es ih => simp [errsOf, ih]

theorem collect_all_err (n : Nat) (es : List E) (h : es.length = n) :
    collect n [] (es.map (Out.err (V := V))) = .error es := by
  have := collect_all_fail (V := V) n [] (es.map Out.err) (by simpa using h)
    (by intro x hx; obtain ⟨e, _, rfl⟩ := List.mem_map.mp hx; rfl)
  rw [this, errsOf_map_err]; simp

theorem errsOf_perm {l1 l2 : List (Out V E)} (h : l1.Perm l2) : (errsOf l1).Perm (errsOf l2) := by
  induction h with
  | nil => exact List.Perm.refl _
  | cons x _ ih => cases x with
    | ok v => simpa [errsOf] using ih
    | err e => simpa [errsOf] using ih
  | swap x y l =>
    cases x <;> cases y <;> simp [errsOf]
    exact List.Perm.swap ..
  | trans _ _ ih1 ih2 => exact ih1.trans ih2

end FS
