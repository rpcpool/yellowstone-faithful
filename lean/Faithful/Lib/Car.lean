import Faithful.Lib.Bytes
import Faithful.Lib.Varint

/-!
CARv1 as bytes: `header ++ sections`, section = `uvarint(len cid + len data) ‖ cid ‖ data`, CIDs in the 36-byte
CIDv1/dag-cbor/sha2-256 form the writers of this repository produce.  Models
`carreader.NextNode`/`ReadSectionLength` (the scan used by every indexer), `parseNodeFromSection`
(epoch.go/storage.go: re-parse of an indexed byte range with CID comparison) and the offset arithmetic of
`createAllIndexes`.
-/
namespace Car
open B

structure Sec where
  cid : Bytes
  data : Bytes
deriving DecidableEq, Repr

def secBytes (s : Sec) : Bytes := Varint.put (s.cid.length + s.data.length) ++ s.cid ++ s.data

/-- the CAR file: `hdr` is the complete header including its own length prefix -/
def encode (hdr : Bytes) (secs : List Sec) : Bytes := hdr ++ (secs.map secBytes).flatten

structure Loc where
  cid : Bytes
  offset : Nat
  secLen : Nat
deriving DecidableEq, Repr

/-- the indexer's loop: `totalOffset` starts at the header size and advances by the section length -/
def scan : Nat → List Sec → List Loc
  | _, [] => []
  | off, s :: r => ⟨s.cid, off, (secBytes s).length⟩ :: scan (off + (secBytes s).length) r

/-- `parseNodeFromSection`: uvarint, then a 36-byte CID, the rest is the object; `none` = error -/
def parseSection (sec : Bytes) : Option (Bytes × Bytes) :=
  match Varint.get sec 10 with
  | none => none
  | some (l, w) =>
    let body := sec.drop w
    if body.length ≠ l ∨ l < 36 then none else some (body.take 36, body.drop 36)

/-- epoch.go `GetNodeByOffsetAndSize` + CID check: read `[off, off+size)`, re-parse, compare the CID -/
def nodeAt (car : Bytes) (off size : Nat) (want : Bytes) : Option Bytes :=
  if off + size > car.length then none else
  match parseSection (slice car off size) with
  | none => none
  | some (c, d) => if c = want then some d else none

/-- the same read on an array (what the driver executes: O(size) instead of O(offset)) -/
def nodeAtA (car : Array UInt8) (off size : Nat) (want : Bytes) : Option Bytes :=
  if off + size > car.size then none else
  match parseSection (car.extract off (off + size)).toList with
  | none => none
  | some (c, d) => if c = want then some d else none

theorem nodeAtA_eq (car : Bytes) (off size : Nat) (want : Bytes) : nodeAtA car.toArray off size want = nodeAt car off size want := by
  unfold nodeAtA nodeAt slice
  simp [List.extract_eq_take_drop]

/-! ### scanning a CAR from bytes (what the driver and `carreader` do) -/

/-- sections after the header, with running offset; `none` = malformed -/
def sections : Nat → Bytes → Nat → Option (List (Sec × Loc))
  | 0, _, _ => none
  | _, [], _ => some []
  | fuel+1, bs, off =>
    match Varint.get bs 10 with
    | none => none
    | some (l, w) =>
      let body := (bs.drop w).take l
      if body.length < l ∨ l < 36 then none
      else
        match sections fuel (bs.drop (w + l)) (off + w + l) with
        | none => none
        | some r => some ((⟨body.take 36, body.drop 36⟩, ⟨body.take 36, off, w + l⟩) :: r)

/-- header = uvarint(len) ‖ dag-cbor header; returns the total header size -/
def headerLen (car : Bytes) : Option Nat :=
  match Varint.get car 10 with
  | none => none
  | some (hl, w) => if car.length < w + hl then none else some (w + hl)

def parse (car : Bytes) : Option (Nat × List (Sec × Loc)) :=
  match headerLen car with
  | none => none
  | some h =>
    match sections (car.length + 1) (car.drop h) h with
    | some l => some (h, l)
    | none => none

/-! ### lemmas -/

theorem secBytes_length (s : Sec) : (secBytes s).length = Varint.width (s.cid.length + s.data.length) + s.cid.length + s.data.length := by
  simp [secBytes, Varint.width, Nat.add_assoc]

theorem scan_length (off : Nat) (secs : List Sec) : (scan off secs).length = secs.length := by
  induction secs generalizing off with
  | nil => rfl
  | cons s r ih => simp [scan, ih]

/-- **offsets are exact**: the i-th recorded location is the i-th CID at `start + Σ_{j<i} len_j` with its own length -/
theorem scan_getElem (off : Nat) (secs : List Sec) (i : Nat) (hi : i < secs.length) :
    (scan off secs)[i]'(by rw [scan_length]; exact hi) =
      ⟨secs[i].cid, off + prefixLen (secs.map secBytes) i, (secBytes secs[i]).length⟩ := by
  induction secs generalizing off i with
  | nil => simp at hi
  | cons s r ih =>
    cases i with
    | zero => simp [scan, prefixLen]
    | succ j =>
      have hj : j < r.length := by simpa using hi
      simp only [scan, List.getElem_cons_succ]
      rw [ih (off + (secBytes s).length) j hj]
      simp [prefixLen, Nat.add_assoc]

theorem scan_mem (off : Nat) (secs : List Sec) (l : Loc) :
    l ∈ scan off secs ↔
      ∃ i, ∃ hi : i < secs.length, l = ⟨secs[i].cid, off + prefixLen (secs.map secBytes) i, (secBytes secs[i]).length⟩ := by
  rw [List.mem_iff_getElem]
  constructor
  · rintro ⟨i, hi, rfl⟩
    exact ⟨i, scan_length off secs ▸ hi, scan_getElem off secs i _⟩
  · rintro ⟨i, hi, rfl⟩
    exact ⟨i, (scan_length off secs).symm ▸ hi, scan_getElem off secs i hi⟩

/-- the bytes at a recorded location are exactly that section -/
theorem slice_at_loc (hdr : Bytes) (secs : List Sec) (i : Nat) (hi : i < secs.length) :
    slice (encode hdr secs) (hdr.length + prefixLen (secs.map secBytes) i) (secBytes secs[i]).length = secBytes secs[i] := by
  unfold encode
  rw [Nat.add_comm hdr.length, ← Nat.add_zero (prefixLen _ i + hdr.length), Nat.add_comm (prefixLen _ i) hdr.length, Nat.add_assoc]
  rw [slice_append_right]
  have hi' : i < (secs.map secBytes).length := by simpa using hi
  have := slice_flatten_at (secs.map secBytes) i hi' 0 (secBytes secs[i]).length (by simp)
  simp only [List.getElem_map] at this
  rw [this]
  exact slice_self _

theorem width_le4 {v : Nat} (h : v < 268435456) : Varint.width v ≤ 4 := by
  have h4 : Varint.width 268435455 = 4 := by
    rw [Varint.width_ge128 (by decide), Varint.width_three (by decide) (by decide)]
  exact h4 ▸ Varint.width_mono (Nat.le_of_lt_succ h)

/-- re-parsing a section written by the encoder gives back its CID and data
    (sections below 2^28 bytes; the CAR reader refuses anything above 32 MiB anyway) -/
theorem parseSection_secBytes (s : Sec) (hc : s.cid.length = 36) (hsz : s.cid.length + s.data.length < 268435456) :
    parseSection (secBytes s) = some (s.cid, s.data) := by
  unfold parseSection secBytes
  have hw : Varint.width (s.cid.length + s.data.length) ≤ 10 := by
    have := width_le4 hsz; omega
  rw [List.append_assoc, Varint.get_put _ _ 10 hw]
  have hd : (Varint.put (s.cid.length + s.data.length) ++ (s.cid ++ s.data)).drop (Varint.width (s.cid.length + s.data.length))
      = s.cid ++ s.data := by
    unfold Varint.width; exact List.drop_left
  simp only [hd]
  have h36 : (s.cid ++ s.data).take 36 = s.cid := by rw [← hc]; exact List.take_left
  have hdr : (s.cid ++ s.data).drop 36 = s.data := by rw [← hc]; exact List.drop_left
  have hlen : ¬ ((s.cid ++ s.data).length ≠ s.cid.length + s.data.length ∨ s.cid.length + s.data.length < 36) := by
    simp; omega
  simp only [hlen, if_false, h36, hdr]

/-- `GetNodeByCid`'s range read at the recorded location of section `i` -/
theorem nodeAt_encode (hdr : Bytes) (secs : List Sec) (i : Nat) (hi : i < secs.length) (hc : secs[i].cid.length = 36)
    (hs : (secBytes secs[i]).length < 2^24) (want : Bytes) :
    nodeAt (encode hdr secs) (hdr.length + prefixLen (secs.map secBytes) i) (secBytes secs[i]).length want
      = if secs[i].cid = want then some secs[i].data else none := by
  have hfit : ¬ hdr.length + prefixLen (secs.map secBytes) i + (secBytes secs[i]).length > (encode hdr secs).length := by
    have := prefixLen_add_le (secs.map secBytes) i (by rw [List.length_map]; exact hi)
    rw [List.getElem_map] at this
    rw [encode, List.length_append]
    omega
  have hsz : secs[i].cid.length + secs[i].data.length < 268435456 := by
    rw [secBytes_length] at hs
    omega
  rw [nodeAt, if_neg hfit, slice_at_loc hdr secs i hi, parseSection_secBytes secs[i] hc hsz]

/-! ### the byte parser recovers exactly the sections of an encoded CAR, with their true locations -/

def WFSec (s : Sec) : Prop := s.cid.length = 36 ∧ s.cid.length + s.data.length < 268435456

theorem get_secBytes (s : Sec) (rest : Bytes) (h : WFSec s) :
    Varint.get (secBytes s ++ rest) 10 = some (s.cid.length + s.data.length, Varint.width (s.cid.length + s.data.length)) := by
  unfold secBytes
  have hw : Varint.width (s.cid.length + s.data.length) ≤ 10 := by have := width_le4 h.2; omega
  rw [List.append_assoc, List.append_assoc, Varint.get_put _ _ 10 hw]

theorem sections_cons (s : Sec) (hs : WFSec s) (rest : Bytes) (fuel off : Nat) :
    sections (fuel + 1) (secBytes s ++ rest) off
      = (sections fuel rest (off + (secBytes s).length)).map ((s, ⟨s.cid, off, (secBytes s).length⟩) :: ·) := by
  obtain ⟨n, hn⟩ : ∃ n, n = s.cid.length + s.data.length := ⟨_, rfl⟩
  have hl : (secBytes s).length = Varint.width n + n := by rw [secBytes_length, hn, Nat.add_assoc]
  have hput : (Varint.put n).length = Varint.width n := rfl
  have hb : secBytes s ++ rest = Varint.put n ++ ((s.cid ++ s.data) ++ rest) := by
    rw [secBytes, hn, List.append_assoc, List.append_assoc, List.append_assoc]
  obtain ⟨b, bs, hbs⟩ : ∃ b bs, secBytes s ++ rest = b :: bs := by
    cases h : secBytes s ++ rest with
    | nil =>
      have := congrArg List.length h
      rw [List.length_append, hl, List.length_nil] at this
      have := Varint.put_length_pos n
      omega
    | cons b bs => exact ⟨b, bs, rfl⟩
  rw [hbs, sections, ← hbs, get_secBytes s rest hs, ← hn]
  · dsimp only
    have hX : (s.cid ++ s.data).length = n := by rw [List.length_append, hn]
    rw [hb, ← List.drop_drop, List.drop_left' hput, List.take_left' hX, List.drop_left' hX,
      if_neg (by rw [hX]; have := hs.1; omega), List.take_left' hs.1, List.drop_left' hs.1, hl, Nat.add_assoc]
    cases sections fuel rest (off + (Varint.width n + n)) <;> rfl
  · exact List.cons_ne_nil b bs

theorem sections_encode : ∀ (secs : List Sec) (off fuel : Nat), (∀ s ∈ secs, WFSec s) → secs.length < fuel →
    sections fuel (secs.map secBytes).flatten off = some (secs.zip (scan off secs))
  | [], off, fuel + 1, _, _ => rfl
  | s :: r, off, fuel + 1, hwf, hf => by
    rw [List.map_cons, List.flatten_cons, sections_cons s (hwf s List.mem_cons_self),
      sections_encode r _ fuel (fun x hx => hwf x (List.mem_cons_of_mem _ hx)) (Nat.lt_of_succ_lt_succ hf)]
    rfl

/-- **the CAR reader is exact**: parsing the bytes of any well-formed CAR (header = uvarint(len) ‖ body) yields the
    header size and every section with the offset and length at which it really sits -/
theorem parse_encode (hbody : Bytes) (secs : List Sec) (hh : hbody.length < 268435456) (hwf : ∀ s ∈ secs, WFSec s) :
    parse (encode (Varint.put hbody.length ++ hbody) secs)
      = some ((Varint.put hbody.length ++ hbody).length, secs.zip (scan (Varint.put hbody.length ++ hbody).length secs)) := by
  unfold parse headerLen encode
  have hw : Varint.width hbody.length ≤ 10 := by have := width_le4 hh; omega
  rw [List.append_assoc, Varint.get_put _ _ 10 hw]
  have hlen : ¬ ((Varint.put hbody.length ++ (hbody ++ (List.map secBytes secs).flatten)).length < Varint.width hbody.length + hbody.length) := by
    simp [Varint.width]
  simp only [hlen, if_false]
  have hdrop : (Varint.put hbody.length ++ (hbody ++ (List.map secBytes secs).flatten)).drop (Varint.width hbody.length + hbody.length)
      = (List.map secBytes secs).flatten := by
    rw [← List.append_assoc]
    have : Varint.width hbody.length + hbody.length = (Varint.put hbody.length ++ hbody).length := by simp [Varint.width]
    rw [this, List.drop_left]
  rw [hdrop]
  have hfuel : secs.length < (Varint.put hbody.length ++ (hbody ++ (List.map secBytes secs).flatten)).length + 1 := by
    have : secs.length ≤ (List.map secBytes secs).flatten.length := by
      clear hdrop hlen
      induction secs with
      | nil => simp
      | cons s r ih =>
        have := ih (fun x hx => hwf x (List.mem_cons_of_mem _ hx))
        simp only [List.map_cons, List.flatten_cons, List.length_append, List.length_cons]
        have hp := Varint.put_length_pos (s.cid.length + s.data.length)
        have : 0 < (secBytes s).length := by rw [secBytes_length]; unfold Varint.width; omega
        omega
    simp only [List.length_append]
    omega
  rw [sections_encode secs _ _ hwf hfuel]
  simp [Varint.width]

end Car
