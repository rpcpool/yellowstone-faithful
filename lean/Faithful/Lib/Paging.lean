import Faithful.Generated.Consts

/-!
# Paging — model of `gsfa/gsfa-read-multiepoch.go` and of the `getSignaturesForAddress` JSON-RPC handler

What the Go code does.  /repo has the fixes C03, C07-1 and C07-2 applied and the quotes are from it, except the two marked
*pinned tree*, whose lines survive only in `/verif/fixes/C07-1.patch` and `C07-2.patch`:

* `GsfaReaderMultiepoch.epochs` is a slice of per-epoch readers **in the order the caller supplies**
  (the handler passes `getGsfaReadersInEpochDescendingOrder()`, newest epoch first).
* `iterBeforeUntil` has three nested loops:
  `epochLoop` over the readers; `for {}` over the chain of linked-log records of the address in that epoch
  (`index.offsets.Get(pk)` gives the newest record, every record carries the location of the previous one;
  a record holds a batch of `(offset,size,slot)` locations, newest first); `for range locations`.
  The signature of a location is obtained through the caller's `fetcher` callback (it reads the transaction
  node from the CAR); `before`/`until` are compared with that signature by `==`.
  - address not in the epoch's index (`IsNotFound`) → `continue epochLoop`; any other lookup error → the request fails;
  - `next.IsZero()` → `continue epochLoop`; `Count() >= limit` (checked before every record) → `break epochLoop`;
  - a record with zero locations → `continue epochLoop` (the remaining chain of that epoch is not visited);
  - per location: `!reachedBefore && sig == *before` → set, `continue`; `!reachedBefore` → `continue`;
    `Count() >= limit` → `break epochLoop`; append to `transactions[epochNum]`; `sig == *until` → `break epochLoop`.
  - `before` given but never met: nothing is ever appended — the answer is empty, not an error.
  - the fetcher may answer `ErrNotForAddress` when the transaction it loaded does not mention the address — the
    24-bit pubkey index landed on another address's chain — and the loop then does `continue epochLoop`.  A chain holds
    the entries of one key only, so this happens at the first entry or never: such an epoch is `Lookup.notFound` in the
    model.  (Go tests `Count() >= limit` before it can see `ErrNotForAddress`, `notFound` skips without that test; the
    answers agree, because the next `found` epoch starts with the same test and the end of the loop returns the same `acc`.)
  - not modelled (an I/O error there fails the request and is outside the property): `ctx.Err()`, `GetEpoch()` not ok,
    a `ReadWithSize` error, a fetcher error other than `ErrNotForAddress`, a `tx.Signature()` error.
* the result is a Go map `epoch → []tx`.  The model keeps the *tagged sequence* `(epoch, tx)` in append order:
  the map is exactly its grouping (`group`), `Count()` is its length.
* `iterBeforeUntilSlot(before, until)`: `limit <= 0 || before < until` → empty; epochs with
  `epochNum > CalcEpochForSlot(before)` are skipped; per location `tx.Slot < until` → `break epochLoop`;
  the *pinned tree* never compares a slot with `before` (parameter `fixed = false`); the repaired code
  (`/verif/fixes/C07-2.patch`) skips locations with `tx.Slot >= before` (`fixed = true`).
* the handler of the *pinned tree* walks the result map with `for ei := range foundTransactions` — Go map order,
  modelled by an arbitrary `order`; the repaired handler (`/verif/fixes/C07-1.patch`) walks the epoch numbers in the
  descending order in which the readers were queried.

Core Lean only.
-/
namespace Paging

structure Tx (σ : Type) where
  sig : σ
  slot : Nat
deriving DecidableEq, Repr

/-- the answer of `index.offsets.Get(pk)` for one loaded epoch -/
inductive Lookup (σ : Type) where
  /-- `compactindexsized.IsNotFound` → `continue epochLoop` -/
  | notFound
  /-- the chain of linked-log records of the address, newest record first, newest transaction first inside -/
  | found (records : List (List (Tx σ)))
  /-- any other error → "error while getting initial offset" -/
  | failed

/-- the loaded epochs in the order of `multi.epochs` -/
abbrev Hist (σ : Type) := List (Nat × Lookup σ)

abbrev Tagged (σ : Type) := List (Nat × Tx σ)

structure S (σ : Type) where
  /-- `transactions` (the map) as the sequence of appends; `transactions.Count() = acc.length` -/
  acc : Tagged σ
  /-- `reachedBefore` -/
  reached : Bool
  /-- `break epochLoop` happened -/
  stop : Bool
  /-- `return nil, err` happened -/
  failed : Bool

section Fin
variable {σ : Type} {v : S σ → Tagged σ → Tagged σ} {limit : Nat} {s : S σ} {x : Nat × Tx σ} {L : Tagged σ}

/-! Both readers are related to their specification by the same device: `fin v limit s L` is the final `acc` of the
machine in state `s` that has the tagged entries `L` still ahead, of which it keeps `v s L` up to `limit`
(`v` is `view before untl` for signatures, `viewSlot before untl` for slots). -/

def fin (v : S σ → Tagged σ → Tagged σ) (limit : Nat) (s : S σ) (L : Tagged σ) : Tagged σ :=
  if s.stop then s.acc else s.acc ++ (v s L).take (limit - s.acc.length)

theorem fin_stop (h : s.stop = true) : fin v limit s L = s.acc := if_pos h

theorem fin_full (h : limit ≤ s.acc.length) : fin v limit s L = s.acc := by
  simp [fin, Nat.sub_eq_zero_of_le h]

theorem fin_nil (hv : v s [] = []) : fin v limit s [] = s.acc := by
  simp [fin, hv]

theorem fin_skip {r : Bool} (hv : v s (x :: L) = v { s with reached := r } L) :
    fin v limit s (x :: L) = fin v limit { s with reached := r } L := by
  simp [fin, hv]

theorem fin_push (hs : s.stop = false) (h : ¬ limit ≤ s.acc.length)
    (hv : v s (x :: L) = x :: v { s with acc := s.acc ++ [x] } L) :
    fin v limit s (x :: L) = fin v limit { s with acc := s.acc ++ [x] } L := by
  simp only [fin, hs, hv, List.length_append, List.length_singleton]
  rw [show limit - s.acc.length = limit - (s.acc.length + 1) + 1 by omega]
  simp

theorem fin_last (hs : s.stop = false) (h : ¬ limit ≤ s.acc.length) (hv : v s (x :: L) = [x]) :
    fin v limit s (x :: L) = s.acc ++ [x] := by
  simp only [fin, hs, hv]
  rw [show limit - s.acc.length = limit - (s.acc.length + 1) + 1 by omega]
  simp

end Fin

section Sig
variable {σ : Type} [DecidableEq σ]

/-! ## the loops of `iterBeforeUntil` -/

/-- `for locIndex, txLoc := range locations` -/
def recLoop (limit : Nat) (before untl : Option σ) (e : Nat) : List (Tx σ) → S σ → S σ
  | [], s => s
  | x :: rest, s =>
    if s.reached = false ∧ before = some x.sig then recLoop limit before untl e rest { s with reached := true }
    else if s.reached = false then recLoop limit before untl e rest s
    else if limit ≤ s.acc.length then { s with stop := true }
    else if untl = some x.sig then { s with acc := s.acc ++ [(e, x)], stop := true }
    else recLoop limit before untl e rest { s with acc := s.acc ++ [(e, x)] }

/-- `for { … ReadWithSize … }` over the chain of records of one epoch -/
def epochLoop (limit : Nat) (before untl : Option σ) (e : Nat) : List (List (Tx σ)) → S σ → S σ
  | [], s => s
  | r :: rs, s =>
    if limit ≤ s.acc.length then { s with stop := true }
    else if r.isEmpty then s
    else if (recLoop limit before untl e r s).stop then recLoop limit before untl e r s
    else epochLoop limit before untl e rs (recLoop limit before untl e r s)

/-- `epochLoop: for readerIndex, index := range multi.epochs` -/
def allEpochs (limit : Nat) (before untl : Option σ) : Hist σ → S σ → S σ
  | [], s => s
  | (_, .notFound) :: hs, s => allEpochs limit before untl hs s
  | (_, .failed) :: _, s => { s with stop := true, failed := true }
  | (e, .found recs) :: hs, s =>
    if (epochLoop limit before untl e recs s).stop then epochLoop limit before untl e recs s
    else allEpochs limit before untl hs (epochLoop limit before untl e recs s)

def start (before : Option σ) : S σ := { acc := [], reached := before.isNone, stop := false, failed := false }

/-- `GetBeforeUntil` / `iterBeforeUntil`: `limit` is a Go `int` -/
def iterBeforeUntil (hs : Hist σ) (limit : Int) (before untl : Option σ) : Except String (Tagged σ) :=
  if limit ≤ 0 then .ok []
  else if (allEpochs limit.toNat before untl hs (start before)).failed then .error "error while getting initial offset"
  else .ok (allEpochs limit.toNat before untl hs (start before)).acc

/-! ## the specification on the flat newest-first history -/

/-- the part of a record chain the reader can see: it stops at the first empty record
    (the writer never produces one; then `visible = flatten`, see `visible_eq_flatten`) -/
def visible {α : Type} : List (List α) → List α
  | [] => []
  | r :: rs => if r.isEmpty then [] else r ++ visible rs

theorem visible_eq_flatten {α : Type} (recs : List (List α)) (h : ∀ r ∈ recs, r ≠ []) :
    visible recs = recs.flatten := by
  induction recs with
  | nil => rfl
  | cons r rs ih =>
    have hr : r.isEmpty = false := by
      have := h r List.mem_cons_self
      cases r with
      | nil => exact absurd rfl this
      | cons _ _ => rfl
    simp only [visible, hr, List.flatten_cons]
    rw [ih (fun r' hr' => h r' (List.mem_cons_of_mem _ hr'))]
    rfl

def entries : Lookup σ → List (Tx σ)
  | .found recs => visible recs
  | _ => []

/-- the complete history of the address over the loaded epochs, in the order the epochs are supplied,
    every entry tagged with its epoch -/
def flatten (hs : Hist σ) : Tagged σ :=
  hs.flatMap fun h => (entries h.2).map fun t => (h.1, t)

/-- everything after the first entry whose signature is `b` (nothing when `b` does not occur) -/
def dropAfter : Option σ → Tagged σ → Tagged σ
  | none, l => l
  | some _, [] => []
  | some b, x :: xs => if x.2.sig = b then xs else dropAfter (some b) xs

/-- everything up to and including the first entry whose signature is `u` (everything when `u` does not occur) -/
def takeThrough : Option σ → Tagged σ → Tagged σ
  | none, l => l
  | some _, [] => []
  | some u, x :: xs => if x.2.sig = u then [x] else x :: takeThrough (some u) xs

def specL (l : Tagged σ) (limit : Int) (before untl : Option σ) : Tagged σ :=
  (takeThrough untl (dropAfter before l)).take limit.toNat

def spec (hs : Hist σ) (limit : Int) (before untl : Option σ) : Tagged σ :=
  specL (flatten hs) limit before untl

section Sim
variable {limit : Nat} {before untl : Option σ} {e : Nat} {s : S σ} {L : Tagged σ}

theorem takeThrough_nil (u : Option σ) : takeThrough u ([] : Tagged σ) = [] := by
  cases u <;> rfl

theorem dropAfter_nil (b : Option σ) : dropAfter b ([] : Tagged σ) = [] := by
  cases b <;> rfl

/-- what `iterBeforeUntil` keeps of the entries ahead -/
def view (before untl : Option σ) (s : S σ) (L : Tagged σ) : Tagged σ :=
  takeThrough untl (if s.reached then L else dropAfter before L)

theorem recLoop_failed (r : List (Tx σ)) (s : S σ) : (recLoop limit before untl e r s).failed = s.failed := by
  fun_induction recLoop limit before untl e r s <;> first | rfl | assumption

theorem recLoop_reached (r : List (Tx σ)) (h : s.reached = true) : (recLoop limit before untl e r s).reached = true := by
  fun_induction recLoop limit before untl e r s <;> simp_all

/-- the inner loop consumes the record `r`: afterwards the machine will produce from `L` exactly what it
    would have produced before from `r ++ L`.  `hb` is the invariant of `start`: without a `before` the machine has
    `reached` from the beginning (it rules out the "still looking for `before`" branch when there is none) -/
theorem recLoop_sim (r : List (Tx σ)) (hs : s.stop = false) (hb : before = none → s.reached = true) :
    fin (view before untl) limit (recLoop limit before untl e r s) L
      = fin (view before untl) limit s (r.map (fun t => (e, t)) ++ L) := by
  fun_induction recLoop limit before untl e r s with
  | case1 => rfl
  | case2 x rest s h ih =>
    obtain ⟨hr, rfl⟩ := h
    rw [ih hs fun _ => rfl]
    refine (fin_skip ?_).symm
    simp [view, hr, dropAfter]
  | case3 x rest s h hr ih =>
    rw [ih hs hb]
    refine (fin_skip ?_).symm
    cases before with
    | none => simp [hb rfl] at hr
    | some b => simp [view, hr, dropAfter, show ¬ x.sig = b from fun hx => h ⟨hr, hx ▸ rfl⟩]
  | case4 x rest s _ _ hl => exact (fin_stop rfl).trans (fin_full hl).symm
  | case5 x rest s _ hr hl hu =>
    subst hu
    refine (fin_stop rfl).trans (fin_last hs hl ?_).symm
    simp [view, hr, takeThrough]
  | case6 x rest s _ hr hl hu ih =>
    rw [ih hs fun _ => by simpa using hr]
    refine (fin_push hs hl ?_).symm
    cases untl with
    | none => simp [view, hr, takeThrough]
    | some u => simp [view, hr, takeThrough, show ¬ x.sig = u from fun hx => hu (hx ▸ rfl)]

theorem epochLoop_failed (recs : List (List (Tx σ))) (s : S σ) :
    (epochLoop limit before untl e recs s).failed = s.failed := by
  fun_induction epochLoop limit before untl e recs s <;> simp [*, recLoop_failed]

theorem epochLoop_reached (recs : List (List (Tx σ))) (h : s.reached = true) :
    (epochLoop limit before untl e recs s).reached = true := by
  fun_induction epochLoop limit before untl e recs s <;> simp [*, recLoop_reached]

theorem epochLoop_sim (recs : List (List (Tx σ))) (hs : s.stop = false) (hb : before = none → s.reached = true) :
    fin (view before untl) limit (epochLoop limit before untl e recs s) L
      = fin (view before untl) limit s ((visible recs).map (fun t => (e, t)) ++ L) := by
  fun_induction epochLoop limit before untl e recs s with
  | case1 => rfl
  | case2 r rs s hl => exact (fin_stop rfl).trans (fin_full hl).symm
  | case3 r rs s _ hr => simp [visible, hr]
  | case4 r rs s _ hr hstop =>
    rw [visible, if_neg hr, List.map_append, List.append_assoc, ← recLoop_sim r hs hb, fin_stop hstop, fin_stop hstop]
  | case5 r rs s _ hr hstop ih =>
    rw [visible, if_neg hr, List.map_append, List.append_assoc, ← recLoop_sim r hs hb]
    exact ih (by simpa using hstop) fun h => recLoop_reached r (hb h)

end Sim

/-- the lookup failed with an error other than not-found -/
def isFailed : Lookup σ → Bool
  | .failed => true
  | _ => false

omit [DecidableEq σ] in
theorem flatten_cons (e : Nat) (lk : Lookup σ) (hs : Hist σ) :
    flatten ((e, lk) :: hs) = (entries lk).map (fun t => (e, t)) ++ flatten hs := rfl

theorem allEpochs_sim {limit : Nat} {before untl : Option σ} {s : S σ} {L : Tagged σ} (hs : Hist σ)
    (hst : s.stop = false) (hb : before = none → s.reached = true) (hok : ∀ h ∈ hs, isFailed h.2 = false) :
    fin (view before untl) limit (allEpochs limit before untl hs s) L = fin (view before untl) limit s (flatten hs ++ L)
    ∧ (allEpochs limit before untl hs s).failed = s.failed := by
  fun_induction allEpochs limit before untl hs s with
  | case1 => exact ⟨rfl, rfl⟩
  | case2 e hs s ih => exact ih hst hb fun h hh => hok h (List.mem_cons_of_mem _ hh)
  | case3 e hs s => cases hok _ List.mem_cons_self
  | case4 e recs hs s hstop =>
    rw [flatten_cons, entries, List.append_assoc, ← epochLoop_sim recs hst hb, fin_stop hstop, fin_stop hstop]
    exact ⟨rfl, epochLoop_failed ..⟩
  | case5 e recs hs s hstop ih =>
    have := ih (by simpa using hstop) (fun h => epochLoop_reached recs (hb h)) fun h hh => hok h (List.mem_cons_of_mem _ hh)
    rw [flatten_cons, entries, List.append_assoc, ← epochLoop_sim recs hst hb]
    exact ⟨this.1, this.2.trans (epochLoop_failed ..)⟩

/-- **the three loops compute the slice**: for every history in which no lookup failed (`hok`; any number of epochs,
    records, entries), every `limit`, every `before`/`until` (present in the history or not) -/
theorem iterBeforeUntil_eq_spec (hs : Hist σ) (limit : Int) (before untl : Option σ)
    (hok : ∀ h ∈ hs, isFailed h.2 = false) :
    iterBeforeUntil hs limit before untl = .ok (spec hs limit before untl) := by
  unfold iterBeforeUntil spec specL
  split
  · simp [show limit.toNat = 0 by omega]
  · have := allEpochs_sim (limit := limit.toNat) (before := before) (untl := untl) (L := []) hs (s := start before) rfl
      (by rintro rfl; rfl) hok
    rw [fin_nil (by simp [view, takeThrough_nil, dropAfter_nil]), List.append_nil] at this
    rw [this.2, this.1]
    cases before <;> simp [fin, view, start, dropAfter]

theorem dropAfter_sublist (b : Option σ) (l : Tagged σ) : (dropAfter b l).Sublist l := by
  cases b with
  | none => simp [dropAfter]
  | some b =>
    induction l with
    | nil => exact List.Sublist.refl _
    | cons x xs ih =>
      simp only [dropAfter]
      split
      · exact List.sublist_cons_self ..
      · exact List.Sublist.cons _ ih

theorem takeThrough_sublist (u : Option σ) (l : Tagged σ) : (takeThrough u l).Sublist l := by
  cases u with
  | none => simp [takeThrough]
  | some u =>
    induction l with
    | nil => exact List.Sublist.refl _
    | cons x xs ih =>
      simp only [takeThrough]
      split
      · exact List.Sublist.cons_cons _ (List.nil_sublist _)
      · exact List.Sublist.cons_cons _ ih

theorem specL_sublist (l : Tagged σ) (limit : Int) (before untl : Option σ) :
    (specL l limit before untl).Sublist l :=
  ((List.take_sublist _ _).trans (takeThrough_sublist _ _)).trans (dropAfter_sublist _ _)

theorem dropAfter_append {b : σ} {pre : Tagged σ} (h : ∀ y ∈ pre, y.2.sig ≠ b) (l : Tagged σ) :
    dropAfter (some b) (pre ++ l) = dropAfter (some b) l := by
  induction pre with
  | nil => rfl
  | cons y pre ih =>
    rw [List.cons_append, dropAfter, if_neg (h y List.mem_cons_self), ih fun z hz => h z (List.mem_cons_of_mem _ hz)]

theorem takeThrough_append {u : σ} {pre : Tagged σ} (h : ∀ y ∈ pre, y.2.sig ≠ u) (l : Tagged σ) :
    takeThrough (some u) (pre ++ l) = pre ++ takeThrough (some u) l := by
  induction pre with
  | nil => rfl
  | cons y pre ih =>
    rw [List.cons_append, takeThrough, if_neg (h y List.mem_cons_self), ih fun z hz => h z (List.mem_cons_of_mem _ hz)]
    rfl

/-- `before` given but not in the history: everything is dropped -/
theorem dropAfter_absent (b : σ) (l : Tagged σ) (h : ∀ x ∈ l, x.2.sig ≠ b) : dropAfter (some b) l = [] := by
  simpa [dropAfter] using dropAfter_append h []

/-- `until` given but not met: nothing is cut -/
theorem takeThrough_absent (u : σ) (l : Tagged σ) (h : ∀ x ∈ l, x.2.sig ≠ u) : takeThrough (some u) l = l := by
  simpa [takeThrough] using takeThrough_append h []

def sigs (l : Tagged σ) : List σ := l.map fun x => x.2.sig

omit [DecidableEq σ] in
theorem sig_ne_of_lt {l : Tagged σ} (hd : (sigs l).Nodup) {a b : Nat} (hab : a < b) (hb : b < l.length) :
    (l[a]'(by omega)).2.sig ≠ l[b].2.sig := by
  simpa [sigs] using List.pairwise_iff_getElem.mp hd a b (by simp [sigs]; omega) (by simp [sigs]; omega) hab

omit [DecidableEq σ] in
/-- with distinct signatures entry `i` is the first one with its signature: the history splits there -/
theorem split_at_index (l : Tagged σ) (i : Nat) (hi : i < l.length) (hd : (sigs l).Nodup) :
    l = l.take i ++ l[i] :: l.drop (i + 1) ∧ ∀ y ∈ l.take i, y.2.sig ≠ l[i].2.sig := by
  refine ⟨by simp, fun y hy => ?_⟩
  obtain ⟨k, hk, rfl⟩ := List.getElem_of_mem hy
  rw [List.getElem_take]
  exact sig_ne_of_lt hd (by simp at hk; omega) hi

theorem dropAfter_index (l : Tagged σ) (i : Nat) (hi : i < l.length) (hd : (sigs l).Nodup) :
    dropAfter (some (l[i]).2.sig) l = l.drop (i + 1) := by
  obtain ⟨hl, hpre⟩ := split_at_index l i hi hd
  rw [congrArg (dropAfter (some l[i].2.sig)) hl, dropAfter_append hpre, dropAfter, if_pos rfl]

theorem takeThrough_index (l : Tagged σ) (j : Nat) (hj : j < l.length) (hd : (sigs l).Nodup) :
    takeThrough (some (l[j]).2.sig) l = l.take (j + 1) := by
  obtain ⟨hl, hpre⟩ := split_at_index l j hj hd
  rw [congrArg (takeThrough (some l[j].2.sig)) hl, takeThrough_append hpre, takeThrough, if_pos rfl]
  simp

omit [DecidableEq σ] in
theorem sigs_nodup_sublist {l l' : Tagged σ} (h : l'.Sublist l) (hd : (sigs l).Nodup) : (sigs l').Nodup :=
  List.Pairwise.sublist (h.map _) hd

/-- index form of the slice (signatures distinct): `before = l[i]`, `until = l[j]` with `i < j` gives
    `l[i+1 .. j]`, cut to `limit` -/
theorem specL_index (l : Tagged σ) (limit : Int) (i j : Nat) (hij : i < j) (hj : j < l.length)
    (hd : (sigs l).Nodup) :
    specL l limit (some (l[i]'(by omega)).2.sig) (some (l[j]).2.sig)
      = ((l.drop (i + 1)).take (j - i)).take limit.toNat := by
  obtain ⟨k, rfl⟩ : ∃ k, j = i + 1 + k := ⟨j - i - 1, by omega⟩
  have hk : k < (l.drop (i + 1)).length := by rw [List.length_drop]; omega
  have hget : (l.drop (i + 1))[k] = l[i + 1 + k] := List.getElem_drop ..
  unfold specL
  rw [dropAfter_index l i (by omega) hd, ← hget,
    takeThrough_index _ k hk (sigs_nodup_sublist (List.drop_sublist _ _) hd), show i + 1 + k - i = k + 1 by omega]

/-- `until` at or before `before` in the history is never met: only `before` and `limit` cut -/
theorem specL_index_until_not_after (l : Tagged σ) (limit : Int) (i j : Nat) (hji : j ≤ i) (hi : i < l.length)
    (hd : (sigs l).Nodup) :
    specL l limit (some (l[i]).2.sig) (some (l[j]'(by omega)).2.sig) = (l.drop (i + 1)).take limit.toNat := by
  unfold specL
  rw [dropAfter_index l i hi hd, takeThrough_absent]
  -- an entry after `l[i]` with the signature of `l[j]`, `j ≤ i`, contradicts distinctness
  intro x hx heq
  obtain ⟨k, hk, rfl⟩ := List.getElem_of_mem hx
  rw [List.getElem_drop] at heq
  exact sig_ne_of_lt hd (by omega) (by simp at hk; omega) heq.symm

theorem allEpochs_skip (limit : Nat) (before untl : Option σ) (hs1 hs2 : Hist σ) (e : Nat) (s : S σ) :
    allEpochs limit before untl (hs1 ++ (e, Lookup.notFound) :: hs2) s = allEpochs limit before untl (hs1 ++ hs2) s := by
  induction hs1 generalizing s with
  | nil => simp [allEpochs]
  | cons h hs1 ih =>
    obtain ⟨e', lk⟩ := h
    cases lk with
    | notFound => simp only [List.cons_append, allEpochs]; exact ih s
    | failed => simp only [List.cons_append, allEpochs]
    | found recs =>
      simp only [List.cons_append, allEpochs]
      split
      · rfl
      · exact ih _

end Sig

section Slot
variable {σ : Type}

/-! ## the slot-bounded variant `iterBeforeUntilSlot` (streaming)

`fixed = false` is the pinned tree; `fixed = true` is the tree with `/verif/fixes/C07-2.patch`
(`if tx.Slot >= int(before) { continue }`). -/

/-- `for _, txLoc := range locations` of `iterBeforeUntilSlot` -/
def recLoopSlot (fixed : Bool) (limit before untl e : Nat) : List (Tx σ) → S σ → S σ
  | [], s => s
  | x :: rest, s =>
    if x.slot < untl then { s with stop := true }
    else if fixed = true ∧ before ≤ x.slot then recLoopSlot fixed limit before untl e rest s
    else if limit ≤ s.acc.length then { s with stop := true }
    else recLoopSlot fixed limit before untl e rest { s with acc := s.acc ++ [(e, x)] }

def epochLoopSlot (fixed : Bool) (limit before untl e : Nat) : List (List (Tx σ)) → S σ → S σ
  | [], s => s
  | r :: rs, s =>
    if limit ≤ s.acc.length then { s with stop := true }
    else if r.isEmpty then s
    else if (recLoopSlot fixed limit before untl e r s).stop then recLoopSlot fixed limit before untl e r s
    else epochLoopSlot fixed limit before untl e rs (recLoopSlot fixed limit before untl e r s)

/-- `slottools.CalcEpochForSlot` on naturals (tied to the translated Go function in Properties/C07) -/
def epochOf (slot : Nat) : Nat := slot / Generated.epochLen

def allEpochsSlot (fixed : Bool) (limit before untl : Nat) : Hist σ → S σ → S σ
  | [], s => s
  | (e, lk) :: hs, s =>
    if epochOf before < e then allEpochsSlot fixed limit before untl hs s      -- `epochNum > beforeEpoch`
    else match lk with
      | .notFound => allEpochsSlot fixed limit before untl hs s
      | .failed => { s with stop := true, failed := true }
      | .found recs =>
        if (epochLoopSlot fixed limit before untl e recs s).stop then epochLoopSlot fixed limit before untl e recs s
        else allEpochsSlot fixed limit before untl hs (epochLoopSlot fixed limit before untl e recs s)

/-- `iterBeforeUntilSlot`; there is no `reachedBefore` in the slot variant, hence `start none` -/
def iterBeforeUntilSlot (fixed : Bool) (hs : Hist σ) (limit : Int) (before untl : Nat) : Except String (Tagged σ) :=
  if limit ≤ 0 ∨ before < untl then .ok []
  else if (allEpochsSlot fixed limit.toNat before untl hs (start none)).failed then .error "error while getting initial offset"
  else .ok (allEpochsSlot fixed limit.toNat before untl hs (start none)).acc

/-- the requested window: `until ≤ slot < before` (the streaming caller passes `endSlot+1` and `startSlot`) -/
def inWin (before untl : Nat) (x : Nat × Tx σ) : Bool := decide (untl ≤ x.2.slot) && decide (x.2.slot < before)

section SlotSim
variable {limit before untl e : Nat} {s : S σ} {L : Tagged σ}

theorem recLoopSlot_mem (r : List (Tx σ)) (s : S σ) :
    ∀ y ∈ (recLoopSlot true limit before untl e r s).acc, y ∈ s.acc ∨ inWin before untl y = true := by
  fun_induction recLoopSlot true limit before untl e r s with
  | case5 x rest s h1 h2 _ ih =>
    have := not_and.mp h2 rfl
    intro y hy
    rcases ih y hy with h | h
    · rcases List.mem_append.mp h with h | h
      · exact .inl h
      · cases List.mem_singleton.mp h
        exact .inr (by simp [inWin]; omega)
    · exact .inr h
  | _ => simp_all  -- end of the record, below the window, skipped entry, limit reached: `acc` unchanged or the hypothesis

theorem epochLoopSlot_mem (recs : List (List (Tx σ))) (s : S σ) :
    ∀ y ∈ (epochLoopSlot true limit before untl e recs s).acc, y ∈ s.acc ∨ inWin before untl y = true := by
  fun_induction epochLoopSlot true limit before untl e recs s with
  | case4 r => exact recLoopSlot_mem r _
  | case5 r rs s _ _ _ ih => exact fun y hy => (ih y hy).elim (recLoopSlot_mem r s y) .inr
  | _ => exact fun y => .inl

theorem allEpochsSlot_mem (hs : Hist σ) (s : S σ) :
    ∀ y ∈ (allEpochsSlot true limit before untl hs s).acc, y ∈ s.acc ∨ inWin before untl y = true := by
  fun_induction allEpochsSlot true limit before untl hs s with
  | case5 e hs s _ recs => exact epochLoopSlot_mem recs _
  | case6 e hs s _ recs _ ih => exact fun y hy => (ih y hy).elim (epochLoopSlot_mem recs s y) .inr
  | case2 | case3 => assumption  -- epoch above `before`, address not in the epoch: the hypothesis for the rest
  | _ => exact fun y => .inl

/-- slots do not increase along the history (newest first) -/
def Desc (l : Tagged σ) : Prop := l.Pairwise fun a b => b.2.slot ≤ a.2.slot

/-- what `iterBeforeUntilSlot` keeps of the entries ahead -/
def viewSlot (before untl : Nat) (_ : S σ) (L : Tagged σ) : Tagged σ := L.filter (inWin before untl)

theorem recLoopSlot_failed (fixed : Bool) (r : List (Tx σ)) (s : S σ) :
    (recLoopSlot fixed limit before untl e r s).failed = s.failed := by
  fun_induction recLoopSlot fixed limit before untl e r s <;> first | rfl | assumption

theorem epochLoopSlot_failed (fixed : Bool) (recs : List (List (Tx σ))) (s : S σ) :
    (epochLoopSlot fixed limit before untl e recs s).failed = s.failed := by
  fun_induction epochLoopSlot fixed limit before untl e recs s <;> simp [*, recLoopSlot_failed]

theorem desc_append_right {A B : Tagged σ} (h : Desc (A ++ B)) : Desc B :=
  (List.pairwise_append.mp h).2.1

theorem recLoopSlot_sim (r : List (Tx σ)) (hs : s.stop = false) (hd : Desc (r.map (fun t => (e, t)) ++ L)) :
    fin (viewSlot before untl) limit (recLoopSlot true limit before untl e r s) L
      = fin (viewSlot before untl) limit s (r.map (fun t => (e, t)) ++ L) := by
  fun_induction recLoopSlot true limit before untl e r s with
  | case1 => rfl
  | case2 x rest s h =>
    -- below the window: everything further on is older still
    have hnil : viewSlot before untl s ((e, x) :: (rest.map (fun t => (e, t)) ++ L)) = [] := by
      rw [viewSlot, List.filter_eq_nil_iff]
      intro y hy
      rcases List.mem_cons.mp hy with rfl | hy
      · simp [inWin]; omega
      · have : y.2.slot ≤ x.slot := (List.pairwise_cons.mp hd).1 y hy
        simp [inWin]; omega
    simp [fin, hs, hnil]
  | case3 x rest s _ h ih =>
    rw [ih hs hd.of_cons]
    have : inWin before untl (e, x) = false := by have := h.2; simp [inWin]; omega
    exact (fin_skip (r := s.reached) (by simp [viewSlot, this])).symm
  | case4 x rest s _ _ hl => exact (fin_stop rfl).trans (fin_full hl).symm
  | case5 x rest s _ h hl ih =>
    rw [ih hs hd.of_cons]
    refine (fin_push hs hl ?_).symm
    have := not_and.mp h rfl
    have : inWin before untl (e, x) = true := by simp [inWin]; omega
    simp [viewSlot, this]

theorem epochLoopSlot_sim (recs : List (List (Tx σ))) (hs : s.stop = false)
    (hd : Desc ((visible recs).map (fun t => (e, t)) ++ L)) :
    fin (viewSlot before untl) limit (epochLoopSlot true limit before untl e recs s) L
      = fin (viewSlot before untl) limit s ((visible recs).map (fun t => (e, t)) ++ L) := by
  fun_induction epochLoopSlot true limit before untl e recs s with
  | case1 => rfl
  | case2 r rs s hl => exact (fin_stop rfl).trans (fin_full hl).symm
  | case3 r rs s _ hr => simp [visible, hr]
  | case4 r rs s _ hr hstop =>
    rw [visible, if_neg hr, List.map_append, List.append_assoc] at hd ⊢
    rw [← recLoopSlot_sim r hs hd, fin_stop hstop, fin_stop hstop]
  | case5 r rs s _ hr hstop ih =>
    rw [visible, if_neg hr, List.map_append, List.append_assoc] at hd ⊢
    rw [← recLoopSlot_sim r hs hd]
    exact ih (by simpa using hstop) (desc_append_right hd)

theorem allEpochsSlot_sim (hs : Hist σ) (hst : s.stop = false) (hd : Desc (flatten hs ++ L))
    (hep : ∀ x ∈ flatten hs, x.1 * Generated.epochLen ≤ x.2.slot)
    (hok : ∀ h ∈ hs, isFailed h.2 = false) :
    fin (viewSlot before untl) limit (allEpochsSlot true limit before untl hs s) L
        = fin (viewSlot before untl) limit s (flatten hs ++ L)
    ∧ (allEpochsSlot true limit before untl hs s).failed = s.failed := by
  fun_induction allEpochsSlot true limit before untl hs s with
  | case1 => exact ⟨rfl, rfl⟩
  | case4 e hs s => cases hok _ List.mem_cons_self
  | case2 e lk hs s hskip ih =>
    -- the whole epoch lies above `before`
    rw [flatten_cons, List.append_assoc] at hd ⊢
    have hnil : ((entries lk).map fun t => (e, t)).filter (inWin before untl) = [] := by
      rw [List.filter_eq_nil_iff]
      rintro y hy
      obtain ⟨t, -, rfl⟩ := List.mem_map.mp hy
      have h1 : e * Generated.epochLen ≤ t.slot := hep (e, t) (List.mem_append_left _ hy)
      have h2 := (Nat.div_lt_iff_lt_mul (show 0 < Generated.epochLen by decide)).mp hskip
      simp [inWin]; omega
    have := ih hst (desc_append_right hd) (fun x hx => hep x (List.mem_append_right _ hx))
      fun h hh => hok h (List.mem_cons_of_mem _ hh)
    refine ⟨this.1.trans ?_, this.2⟩
    simp [fin, viewSlot, hnil]
  | case3 e hs s _ ih =>
    exact ih hst hd (fun x hx => hep x hx) fun h hh => hok h (List.mem_cons_of_mem _ hh)
  | case5 e hs s _ recs hstop =>
    rw [flatten_cons, entries, List.append_assoc] at hd ⊢
    rw [← epochLoopSlot_sim recs hst hd, fin_stop hstop, fin_stop hstop]
    exact ⟨rfl, epochLoopSlot_failed ..⟩
  | case6 e hs s _ recs hstop ih =>
    rw [flatten_cons, entries, List.append_assoc] at hd ⊢
    have := ih (by simpa using hstop) (desc_append_right hd)
      (fun x hx => hep x (List.mem_append_right _ hx)) fun h hh => hok h (List.mem_cons_of_mem _ hh)
    rw [← epochLoopSlot_sim recs hst hd]
    exact ⟨this.1, this.2.trans (epochLoopSlot_failed ..)⟩

end SlotSim

theorem allEpochsSlot_skip (fixed : Bool) (limit before untl : Nat) (hs1 hs2 : Hist σ) (e : Nat) (s : S σ) :
    allEpochsSlot fixed limit before untl (hs1 ++ (e, Lookup.notFound) :: hs2) s
      = allEpochsSlot fixed limit before untl (hs1 ++ hs2) s := by
  induction hs1 generalizing s with
  | nil => simp [allEpochsSlot]
  | cons h hs1 ih =>
    obtain ⟨e', lk⟩ := h
    cases lk <;> simp [allEpochsSlot, ih]

end Slot

/-! ## the JSON-RPC handler: from the result map to the response array -/

section Handler
variable {σ : Type}

/-- `foundTransactions[e]`: the Go map is the grouping of the append sequence by epoch -/
def group (out : Tagged σ) (e : Nat) : List (Tx σ) := (out.filter fun x => x.1 == e).map fun x => x.2

/-- the keys of the Go map (epochs with at least one appended transaction) -/
def keys (out : Tagged σ) : List Nat := (out.map fun x => x.1).eraseDups

/-- pinned handler: `for ei := range foundTransactions { … response[numBefore+i] = … }` with the map keys
    visited in `order` (Go leaves the order unspecified and randomises it) -/
def responsePinned (order : List Nat) (out : Tagged σ) : List σ :=
  order.flatMap fun e => (group out e).map fun t => t.sig

/-- repaired handler (`/verif/fixes/C07-1.patch`): the epoch numbers in the order in which the readers were
    queried (`getGsfaReadersInEpochDescendingOrder`) -/
def responseFixed (epochs : List Nat) (out : Tagged σ) : List σ :=
  epochs.flatMap fun e => (group out e).map fun t => t.sig

/-- `parseGetSignaturesForAddressParams`: `if out.Limit <= 0 || out.Limit > 1000 { out.Limit = 1000 }` -/
def normLimit (l : Int) : Int := if l ≤ 0 ∨ l > 1000 then 1000 else l

/-- entries grouped epoch by epoch in the order `es`.  The argument of `C07.response_order`: the slice is a sublist of
    the flattened history (`specL_sublist`), which is blocked by the epochs when their numbers are distinct
    (`blocked_flatten`); blockedness passes to sublists (`blocked_sublist`); regrouping a blocked list in block order
    gives it back (`blocked_regroup`) -/
def Blocked : List Nat → Tagged σ → Prop
  | [], l => l = []
  | e :: es, l => ∃ l1 l2, l = l1 ++ l2 ∧ (∀ x ∈ l1, x.1 = e) ∧ (∀ x ∈ l2, x.1 ≠ e) ∧ Blocked es l2

theorem blocked_sublist (es : List Nat) (l l' : Tagged σ) (hb : Blocked es l) (hs : l'.Sublist l) :
    Blocked es l' := by
  induction es generalizing l l' with
  | nil =>
    simp only [Blocked] at hb ⊢
    subst hb
    exact List.eq_nil_of_sublist_nil hs
  | cons e es ih =>
    obtain ⟨l1, l2, rfl, h1, h2, h3⟩ := hb
    obtain ⟨a, b, rfl, ha, hb'⟩ := List.sublist_append_iff.mp hs
    exact ⟨a, b, rfl, fun x hx => h1 x (ha.subset hx), fun x hx => h2 x (hb'.subset hx), ih l2 b h3 hb'⟩

theorem mem_flatten_epoch (hs : Hist σ) (x : Nat × Tx σ) (hx : x ∈ flatten hs) : x.1 ∈ hs.map fun h => h.1 := by
  simp only [flatten, List.mem_flatMap, List.mem_map] at hx ⊢
  obtain ⟨h, hh, t, _, rfl⟩ := hx
  exact ⟨h, hh, rfl⟩

theorem blocked_flatten (hs : Hist σ) (hn : (hs.map fun h => h.1).Nodup) :
    Blocked (hs.map fun h => h.1) (flatten hs) := by
  induction hs with
  | nil => simp [Blocked, flatten]
  | cons h hs ih =>
    simp only [List.map_cons, List.nodup_cons] at hn
    refine ⟨(entries h.2).map (fun t => (h.1, t)), flatten hs, by simp [flatten], ?_, ?_, ih hn.2⟩
    · intro x hx
      obtain ⟨t, _, rfl⟩ := List.mem_map.mp hx
      rfl
    · intro x hx heq
      have hm := mem_flatten_epoch hs x hx
      rw [heq] at hm
      exact hn.1 hm

theorem regroup_skip (e : Nat) (es : List Nat) (l1 l2 : Tagged σ) (h1 : ∀ x ∈ l1, x.1 = e) (he : e ∉ es) :
    es.flatMap (fun e' => (l1 ++ l2).filter fun x => x.1 == e') = es.flatMap (fun e' => l2.filter fun x => x.1 == e') := by
  induction es with
  | nil => rfl
  | cons e' es ih =>
    have hne : e ≠ e' := fun h => he (h ▸ List.mem_cons_self)
    have : l1.filter (fun x => x.1 == e') = [] := by
      rw [List.filter_eq_nil_iff]
      intro x hx
      have := h1 x hx
      simp [this, hne]
    have ih' := ih (fun h => he (List.mem_cons_of_mem _ h))
    simp only [List.filter_append] at ih'
    simp only [List.flatMap_cons, List.filter_append, this, List.nil_append]
    rw [ih']

theorem blocked_regroup (es : List Nat) (l : Tagged σ) (hn : es.Nodup) (hb : Blocked es l) :
    es.flatMap (fun e => l.filter fun x => x.1 == e) = l := by
  induction es generalizing l with
  | nil => simp only [Blocked] at hb; subst hb; rfl
  | cons e es ih =>
    obtain ⟨l1, l2, rfl, h1, h2, h3⟩ := hb
    simp only [List.nodup_cons] at hn
    have f1 : l1.filter (fun x => x.1 == e) = l1 := by
      rw [List.filter_eq_self]
      intro x hx; simp [h1 x hx]
    have f2 : l2.filter (fun x => x.1 == e) = [] := by
      rw [List.filter_eq_nil_iff]
      intro x hx; simp [h2 x hx]
    simp only [List.flatMap_cons, List.filter_append, f1, f2, List.append_nil]
    have := regroup_skip e es l1 l2 h1 hn.1
    simp only [List.filter_append] at this
    rw [this, ih l2 hn.2 h3]

theorem responseFixed_eq (es : List Nat) (out : Tagged σ) :
    responseFixed es out = (es.flatMap fun e => out.filter fun x => x.1 == e).map fun x => x.2.sig := by
  induction es with
  | nil => rfl
  | cons e es ih =>
    simp only [responseFixed, group, List.flatMap_cons, List.map_append, List.map_map] at ih ⊢
    rw [ih]
    rfl

end Handler

section HandlerSig
variable {σ : Type} [DecidableEq σ]

/-- the repaired `handleGetSignaturesForAddress`, signatures only: the `result` array of the response -/
def handler (hs : Hist σ) (limit : Int) (before untl : Option σ) : Except String (List σ) :=
  match iterBeforeUntil hs (normLimit limit) before untl with
  | .ok out => .ok (responseFixed (hs.map fun h => h.1) out)
  | .error e => .error e

end HandlerSig

end Paging
