import Faithful.Lib.Ledger
/-! The byte parser's resource limits (array elements, map pairs, nesting) on reference-encoded ledger nodes:
the encoding of a typed value has no maps, nesting ≤ 4 and its largest array is the longest list of the value
(or a tuple, ≤ 6).  Core Lean only. -/
namespace Ledger
open Cbor

/-- bound on the statistics of a tree: arrays ≤ a, no maps, depth ≤ d -/
structure Bd (s : Stats) (a d : Nat) : Prop where
  arr : s.maxArr ≤ a
  map : s.maxMap = 0
  depth : s.depth ≤ d

theorem Bd.empty (a d : Nat) : Bd {} a d := ⟨Nat.zero_le _, rfl, Nat.zero_le _⟩

theorem Bd.mono {s : Stats} {a d a' d' : Nat} (h : Bd s a d) (ha : a ≤ a') (hd : d ≤ d') : Bd s a' d' :=
  ⟨Nat.le_trans h.arr ha, h.map, Nat.le_trans h.depth hd⟩

theorem Bd.join {s t : Stats} {a d : Nat} (hs : Bd s a d) (ht : Bd t a d) : Bd (s.join t) a d := by
  refine ⟨?_, ?_, ?_⟩
  · simp only [Stats.join]; exact Nat.max_le.mpr ⟨hs.arr, ht.arr⟩
  · simp only [Stats.join, hs.map, ht.map]; rfl
  · simp only [Stats.join]; exact Nat.max_le.mpr ⟨hs.depth, ht.depth⟩

theorem Bd.foldl (f : Val → Stats) (a d : Nat) (xs : List Val) (init : Stats) (hi : Bd init a d)
    (h : ∀ v ∈ xs, Bd (f v) a d) : Bd (xs.foldl (fun s v => s.join (f v)) init) a d := by
  induction xs generalizing init with
  | nil => exact hi
  | cons x xs ih =>
    simp only [List.foldl_cons]
    exact ih _ (hi.join (h x (by simp))) (fun v hv => h v (by simp [hv]))

theorem bd_arr (fuel : Nat) (xs : List Val) (a d : Nat) (hlen : xs.length ≤ a)
    (h : ∀ fuel', ∀ v ∈ xs, Bd (stats fuel' v) a d) : Bd (stats fuel (.arr xs)) a (d + 1) := by
  cases fuel with
  | zero => simp only [stats]; exact Bd.empty _ _
  | succ f =>
    have hf := Bd.foldl (stats f) a d xs {} (Bd.empty _ _) (h f)
    simp only [stats]
    exact ⟨Nat.max_le.mpr ⟨hlen, hf.arr⟩, hf.map, Nat.succ_le_succ hf.depth⟩

theorem bd_encInt (fuel : Nat) (v : Int) (a d : Nat) : Bd (stats fuel (Ref.encInt v)) a d := by
  unfold Ref.encInt
  cases fuel <;> split <;> simp only [stats] <;> exact Bd.empty _ _

theorem bd_bytes (fuel : Nat) (b : Bytes) (a d : Nat) : Bd (stats fuel (.bytes b)) a d := by
  cases fuel <;> simp only [stats] <;> exact Bd.empty _ _

theorem bd_null (fuel : Nat) (a d : Nat) : Bd (stats fuel .null) a d := by
  cases fuel <;> simp only [stats] <;> exact Bd.empty _ _

theorem bd_encLink (fuel : Nat) (c : Cid) (a d : Nat) : Bd (stats fuel (Ref.encLink c)) a (d + 1) := by
  unfold Ref.encLink
  cases fuel with
  | zero => simp only [stats]; exact Bd.empty _ _
  | succ f =>
    have hb := bd_bytes f (0 :: c) a d
    simp only [stats]
    exact ⟨hb.arr, hb.map, Nat.succ_le_succ hb.depth⟩

theorem bd_encLinks (fuel : Nat) (l : List Cid) (a : Nat) (h : l.length ≤ a) : Bd (stats fuel (Ref.encLinks l)) a 2 := by
  unfold Ref.encLinks
  refine bd_arr fuel _ a 1 (by simpa using h) ?_
  intro f v hv
  obtain ⟨c, _, rfl⟩ := List.mem_map.mp hv
  exact bd_encLink f c a 0

/-- what a tuple contains: some of the fields, in order -/
theorem dropTrailing_sublist : ∀ l : List (Option Val), (Ref.dropTrailingAbsent l).Sublist l
  | [] => .slnil
  | y :: ys => by
    have ih := dropTrailing_sublist ys
    simp only [Ref.dropTrailingAbsent]
    split
    · cases y with
      | none => exact List.nil_sublist _
      | some v => exact (List.nil_sublist _).cons₂ _
    · exact ih.cons₂ y

/-- a tuple slot: absent, or a value whose statistics are bounded at every fuel -/
def SlotBd (a d : Nat) (o : Option Val) : Prop := ∀ fuel v, o = some v → Bd (stats fuel v) a d

def SlotsBd (a d : Nat) : List (Option Val) → Prop
  | [] => True
  | o :: os => SlotBd a d o ∧ SlotsBd a d os

theorem SlotsBd.mem {a d : Nat} : ∀ {fields : List (Option Val)}, SlotsBd a d fields → ∀ o ∈ fields, SlotBd a d o
  | _ :: _, h, _, .head _ => h.1
  | _ :: _, h, o, .tail _ ho => h.2.mem o ho

theorem slot_val {a d : Nat} {v : Val} (h : ∀ fuel, Bd (stats fuel v) a d) : SlotBd a d (some v) :=
  fun f _ e => Option.some.inj e ▸ h f

theorem slot_int {a d : Nat} {v : Int} : SlotBd a d (some (Ref.encInt v)) := slot_val (bd_encInt · v a d)

theorem slot_optInt {a d : Nat} {o : OptN Int} : SlotBd a d (Ref.encOpt Ref.encInt o) := by
  intro f v h
  rcases o with _ | _ | x
  · cases h
  · exact Option.some.inj h ▸ bd_null f a d
  · exact Option.some.inj h ▸ bd_encInt f x a d

theorem slot_links {a : Nat} {l : List Cid} (h : l.length ≤ a) : SlotBd a 3 (some (Ref.encLinks l)) :=
  slot_val fun f => (bd_encLinks f l a h).mono (Nat.le_refl _) (by decide)

theorem bd_tuple (fuel : Nat) (fields : List (Option Val)) (a d : Nat) (hlen : fields.length ≤ a)
    (h : SlotsBd a d fields) : Bd (stats fuel (.arr (Ref.tupleItems' fields))) a (d + 1) := by
  refine bd_arr fuel _ a d ?_ ?_
  · simp only [Ref.tupleItems', List.length_map]
    exact Nat.le_trans (dropTrailing_sublist fields).length_le hlen
  · intro f v hv
    simp only [Ref.tupleItems'] at hv
    obtain ⟨o, ho, rfl⟩ := List.mem_map.mp hv
    cases o with
    | none => exact bd_null f a d
    | some w => exact h.mem _ ((dropTrailing_sublist fields).subset ho) f w rfl

theorem bd_dataFrame (fuel : Nat) (x : DataFrame) (a : Nat) (ha : 6 ≤ a) (h : x.maxList ≤ a) :
    Bd (stats fuel (Ref.encDataFrame x)) a 3 := by
  refine bd_tuple fuel _ a 2 ha ⟨slot_int, slot_optInt, slot_optInt, slot_optInt, slot_val (bd_bytes · _ a 2), ?_, trivial⟩
  intro f v hv
  rcases hn : x.next with _ | _ | l
  · rw [hn] at hv; cases hv
  · rw [hn] at hv; exact Option.some.inj hv ▸ bd_null f a 2
  · rw [hn] at hv
    have : l.length ≤ a := by simpa [DataFrame.maxList, hn] using h
    exact Option.some.inj hv ▸ bd_encLinks f l a this

theorem bd_shredding (fuel : Nat) (s : Shredding) (a : Nat) (ha : 2 ≤ a) : Bd (stats fuel (Ref.encShredding s)) a 1 :=
  bd_tuple fuel _ a 0 ha ⟨slot_int, slot_int, trivial⟩

theorem bd_slotMeta (fuel : Nat) (m : SlotMeta) (a : Nat) (ha : 3 ≤ a) : Bd (stats fuel (Ref.encSlotMeta m)) a 1 :=
  bd_tuple fuel _ a 0 ha ⟨slot_int, slot_int, slot_optInt, trivial⟩

/-- the encoding of any typed value: no maps, nesting at most 4, arrays no longer than its longest list (or 6) -/
theorem bd_encode (fuel : Nat) (n : Node) (a : Nat) (ha : 6 ≤ a) (h : n.maxList ≤ a) :
    Bd (stats fuel (Ref.encode n)) a 4 := by
  have le6 : ∀ {m}, m ≤ 6 → m ≤ a := fun hm => Nat.le_trans hm ha
  cases n with
  | transaction x =>
    exact bd_tuple fuel _ a 3 (le6 (by decide : 5 ≤ 6))
      ⟨slot_int, slot_val (bd_dataFrame · _ a ha (Nat.le_trans (Nat.le_max_left ..) h)),
        slot_val (bd_dataFrame · _ a ha (Nat.le_trans (Nat.le_max_right ..) h)), slot_int, slot_optInt, trivial⟩
  | entry x =>
    exact bd_tuple fuel _ a 3 (le6 (by decide : 4 ≤ 6))
      ⟨slot_int, slot_int, slot_val (bd_bytes · _ a 3), slot_links h, trivial⟩
  | block x =>
    refine bd_tuple fuel _ a 3 ha
      ⟨slot_int, slot_int, slot_val fun f => ?_, slot_links (Nat.le_trans (Nat.le_max_right ..) h),
        slot_val fun f => (bd_slotMeta f _ a (le6 (by decide))).mono (Nat.le_refl _) (by decide),
        slot_val fun f => (bd_encLink f _ a 0).mono (Nat.le_refl _) (by decide), trivial⟩
    refine (bd_arr f _ a 1 (by simpa using Nat.le_trans (Nat.le_max_left ..) h) ?_).mono (Nat.le_refl _) (by decide)
    intro f' v hv
    obtain ⟨s, _, rfl⟩ := List.mem_map.mp hv
    exact bd_shredding f' s a (le6 (by decide))
  | subset x =>
    exact bd_tuple fuel _ a 3 (le6 (by decide : 4 ≤ 6)) ⟨slot_int, slot_int, slot_int, slot_links h, trivial⟩
  | epoch x =>
    exact bd_tuple fuel _ a 3 (le6 (by decide : 3 ≤ 6)) ⟨slot_int, slot_int, slot_links h, trivial⟩
  | rewards x =>
    exact bd_tuple fuel _ a 3 (le6 (by decide : 3 ≤ 6)) ⟨slot_int, slot_int, slot_val (bd_dataFrame · _ a ha h), trivial⟩
  | dataFrame x => exact (bd_dataFrame fuel x a ha h).mono (Nat.le_refl _) (by decide)

end Ledger
