import Faithful.Lib.Bytes
import Faithful.Lib.Varint
import Faithful.Generated.Consts

/-!
C12 — total models of the repository's own parsers of external data.

Every model maps the input bytes to a `Res α`: an `Outcome` (`ok | err | panic`; there is no `hang` constructor because
every function below is defined by structural or well-founded recursion without fuel, i.e. it terminates) together with
`maxAlloc`, the largest number of bytes a single `make`/`append` of the mirrored Go code requests.

The models mirror the REPAIRED code (fixes/C12-*.patch) line by line; where the pinned code differs, a `…Pinned` variant
is given next to it and the pinned failure is a `decide`-checked witness in `Properties/C12.lean`.

What is a parameter (third-party, exercised by the harness only): the verdict of go-cid on a byte string (`cidLen : Bytes → Option Nat`,
the number of bytes it consumes; `castOk : Bool` in `defaultMetadata`), zstd (`z`), xxhash (`h64`, `wanted`).
Go runtime facts used: `make` panics with "len out of range" when the requested size exceeds 2^48 bytes (`Res.make`);
indexing / slicing / type assertion failures are `crash`.  Core Lean only.
-/
namespace Px
open B

abbrev Bytes := List UInt8

inductive Outcome (α : Type) where
  | ok (a : α)
  | err (e : String)
  | panic (why : String)
  deriving Repr

def Outcome.isPanic {α : Type} : Outcome α → Bool
  | .panic _ => true
  | _ => false
def Outcome.isOk {α : Type} : Outcome α → Bool
  | .ok _ => true
  | _ => false
def Outcome.cls {α : Type} : Outcome α → String
  | .ok _ => "ok"
  | .err _ => "err"
  | .panic _ => "panic"

structure Res (α : Type) where
  outcome : Outcome α
  maxAlloc : Nat

namespace Res
variable {α β : Type}
def ok (a : α) : Res α := ⟨.ok a, 0⟩
def fail (e : String) : Res α := ⟨.err e, 0⟩
def crash (w : String) : Res α := ⟨.panic w, 0⟩
def bind (x : Res α) (f : α → Res β) : Res β :=
  match x.outcome with
  | .ok a => ⟨(f a).outcome, max x.maxAlloc (f a).maxAlloc⟩
  | .err e => ⟨.err e, x.maxAlloc⟩
  | .panic w => ⟨.panic w, x.maxAlloc⟩
instance : Monad Res where
  pure := ok
  bind := bind

/-- Go `maxAlloc` on 64-bit Linux: a `make` beyond it panics ("makeslice: len out of range") -/
def goMaxAlloc : Nat := 2 ^ 48
/-- `make([]T, n)` with `sz`-byte elements -/
def make (n sz : Nat) : Res Unit :=
  if n * sz > goMaxAlloc then crash "makeslice: len out of range" else ⟨.ok (), n * sz⟩
/-- an allocation whose size the code itself bounds (fixed-size buffers, bufio, append growth) -/
def alloc (n : Nat) : Res Unit := ⟨.ok (), n⟩
/-- lift an `Option` (a read that can only fail with an error) -/
def ofOption (e : String) : Option α → Res α
  | some a => ok a
  | none => fail e

/-- no panic, and no request above `B` bytes -/
def Safe (B : Nat) (r : Res α) : Prop := (∀ w, r.outcome ≠ .panic w) ∧ r.maxAlloc ≤ B

/-- `Safe` with a post-condition.  The `*_safe` theorems are stated with `Safe` where nothing is needed of the result and
    proved through `SafeP.safe`; `Safe.p` hands such a theorem to a step of a `SafeP` walk. -/
def SafeP (B : Nat) (P : α → Prop) (r : Res α) : Prop := Safe B r ∧ ∀ a, r.outcome = .ok a → P a

theorem SafeP.safe {B : Nat} {r : Res α} (h : SafeP B (fun _ => True) r) : Safe B r := h.1
theorem Safe.p {B : Nat} {r : Res α} (h : Safe B r) : SafeP B (fun _ => True) r := ⟨h, fun _ _ => trivial⟩

theorem safe_ok {B : Nat} {P : α → Prop} {a : α} (h : P a) : SafeP B P (ok a) :=
  ⟨⟨fun _ h => (by cases h), Nat.zero_le _⟩, fun _ e => by cases e; exact h⟩
theorem safe_pure (B : Nat) (a : α) : Safe B (pure a : Res α) := (safe_ok trivial).safe
theorem safe_fail {B : Nat} {P : α → Prop} {e : String} : SafeP B P (fail e) :=
  ⟨⟨fun _ h => (by cases h), Nat.zero_le _⟩, fun _ h => by cases h⟩
theorem safe_alloc {B n : Nat} (h : n ≤ B) : Safe B (alloc n) := ⟨fun _ h' => (by cases h'), h⟩
theorem safe_ofOption {B : Nat} {e : String} {o : Option α} : Safe B (ofOption e o) := by
  cases o with
  | none => exact safe_fail.safe
  | some a => exact (safe_ok trivial).safe
theorem safe_make {B n sz : Nat} (h : n * sz ≤ B) (h2 : n * sz ≤ goMaxAlloc) : Safe B (make n sz) := by
  unfold make
  rw [if_neg (by omega)]
  exact ⟨fun _ h' => (by cases h'), h⟩

theorem safe_mono {B B' : Nat} {r : Res α} (h : Safe B r) (hb : B ≤ B') : Safe B' r := ⟨h.1, Nat.le_trans h.2 hb⟩
theorem SafeP.mono {B B' : Nat} {P Q : α → Prop} {r : Res α} (h : SafeP B P r) (hb : B ≤ B') (hpq : ∀ a, P a → Q a) :
    SafeP B' Q r := ⟨safe_mono h.1 hb, fun a e => hpq a (h.2 a e)⟩

/-- the bound in the form `c·|input| + d` of property C12; `hB` so that the caller passes `X_val` or `rfl` and the
    literal stands in the statement -/
theorem Safe.le_const {B d : Nat} {r : Res α} (h : Safe B r) (hB : B = d) (len : Nat) : r.maxAlloc ≤ 0 * len + d := by
  have := h.2; omega
theorem Safe.le_linear {B d len : Nat} {r : Res α} (h : Safe (len + B) r) (hB : B = d) : r.maxAlloc ≤ 1 * len + d := by
  have := h.2; omega

/-! One lemma per shape of statement in the mirrored code: a `*_safe` proof is one `refine` per Go statement (`split`
would re-simplify the whole remaining do-block at every `if`). -/

/-- bind whose first part is safe for a smaller bound; `safe_bind` is the case `B' = B` -/
theorem safe_step {B B' : Nat} {P : α → Prop} {Q : β → Prop} {x : Res α} {f : α → Res β} (hx : SafeP B' P x)
    (hb : B' ≤ B) (hf : ∀ a, P a → SafeP B Q (f a)) : SafeP B Q (x >>= f) := by
  obtain ⟨⟨hp, ha⟩, hpost⟩ := hx
  show SafeP B Q (Res.bind x f)
  unfold Res.bind
  cases hxo : x.outcome with
  | ok a =>
    obtain ⟨⟨hp2, ha2⟩, hq⟩ := hf a (hpost a hxo)
    exact ⟨⟨hp2, Nat.max_le.mpr ⟨Nat.le_trans ha hb, ha2⟩⟩, hq⟩
  | err e => exact ⟨⟨fun _ h => (by cases h), Nat.le_trans ha hb⟩, fun _ h => by cases h⟩
  | panic w => exact absurd hxo (hp w)

theorem safe_bind {B : Nat} {P : α → Prop} {Q : β → Prop} {x : Res α} {f : α → Res β} (hx : SafeP B P x)
    (hf : ∀ a, P a → SafeP B Q (f a)) : SafeP B Q (x >>= f) := safe_step hx (Nat.le_refl B) hf

theorem safe_alloc_then {B n : Nat} {P : α → Prop} {k : Res α} (h : n ≤ B) (hk : SafeP B P k) :
    SafeP B P (alloc n >>= fun _ => k) :=
  safe_bind (safe_alloc h).p fun _ _ => hk

theorem safe_make_then {B n sz : Nat} {P : α → Prop} {k : Res α} (h : n * sz ≤ B) (h2 : n * sz ≤ goMaxAlloc)
    (hk : SafeP B P k) : SafeP B P (make n sz >>= fun _ => k) :=
  safe_bind (safe_make h h2).p fun _ _ => hk

theorem safe_dite {B : Nat} {P : α → Prop} {c : Prop} [Decidable c] {a : c → Res α} {b : ¬c → Res α}
    (ha : ∀ h, SafeP B P (a h)) (hb : ∀ h, SafeP B P (b h)) : SafeP B P (dite c a b) := by
  by_cases h : c
  · rw [dif_pos h]; exact ha h
  · rw [dif_neg h]; exact hb h

theorem safe_ite {B : Nat} {P : α → Prop} {c : Prop} [Decidable c] {a b : Res α} (ha : c → SafeP B P a)
    (hb : ¬c → SafeP B P b) : SafeP B P (if c then a else b) := safe_dite (a := fun _ => a) (b := fun _ => b) ha hb

theorem safe_guard {B : Nat} {P : α → Prop} {c : Prop} [Decidable c] {e : String} {k : Res α}
    (hk : ¬c → SafeP B P k) : SafeP B P (if c then fail e else k) := safe_ite (fun _ => safe_fail) hk

theorem safe_assert {B : Nat} {P : α → Prop} {c : Prop} [Decidable c] {w : String} {k : Res α} (hc : ¬c)
    (hk : SafeP B P k) : SafeP B P (if c then crash w else k) := by
  rw [if_neg hc]; exact hk

/-- panic-freedom alone (when no allocation bound is wanted) -/
def NoPanic (r : Res α) : Prop := ∀ w, r.outcome ≠ .panic w
theorem Safe.noPanic {B : Nat} {r : Res α} (h : Safe B r) : NoPanic r := h.1
theorem noPanic_bind {x : Res α} {f : α → Res β} (hx : NoPanic x) (hf : ∀ a, x.outcome = .ok a → NoPanic (f a)) :
    NoPanic (x >>= f) := by
  show NoPanic (Res.bind x f)
  unfold Res.bind
  cases hxo : x.outcome with
  | ok a => exact hf a hxo
  | err e => intro w h; cases h
  | panic w => exact absurd hxo (hx w)

theorem make_ok {n sz : Nat} {u : Unit} (h : (make n sz).outcome = .ok u) : n * sz ≤ goMaxAlloc := by
  unfold make at h
  by_cases hc : n * sz > goMaxAlloc
  · rw [if_pos hc] at h; cases h
  · omega
end Res

open Res

/-- little-endian value of the `w` bytes at `off` (caller has checked the range) -/
def leAt (f : Bytes) (off w : Nat) : Nat := unle (slice f off w)

/-- Go `io.ReaderAt.ReadAt(buf[len n], off)` on an in-memory file, for the call sites that give up when fewer than
    `n` bytes arrive: the bytes, or `none` -/
def readAt (f : Bytes) (off n : Nat) : Option Bytes :=
  if off + n ≤ f.length then some (slice f off n) else none

theorem readAt_length {f : Bytes} {off n : Nat} {b : Bytes} (h : readAt f off n = some b) : b.length = n := by
  unfold readAt at h
  split at h
  · cases h; simp [slice, List.length_take, List.length_drop]; omega
  · cases h

theorem slice_length_le (f : Bytes) (off n : Nat) : (slice f off n).length ≤ n := by
  simp [slice, List.length_take]; omega

/-! ## indexmeta: `Meta.UnmarshalBinary` / `UnmarshalWithDecoder`, `Get`, `GetUint64` -/

structure KV where
  key : Bytes
  val : Bytes
  deriving Repr, DecidableEq

/-- the `for i := 0; i < numKVs; i++` loop of `UnmarshalWithDecoder`: each round reads a length byte, `make`s and fills the
    key, then the same for the value (an `io.ReadFull` of zero bytes succeeds); returns the pairs and the unread rest -/
def metaLoop : Nat → Bytes → Res (List KV × Bytes)
  | 0, bs => ok ([], bs)
  | n+1, bs =>
    match bs with
    | [] => fail "failed to read key length"
    | kl :: r1 => do
      alloc kl.toNat
      if r1.length < kl.toNat then fail "failed to read key" else
      match r1.drop kl.toNat with
      | [] => fail "failed to read value length"
      | vl :: r3 => do
        alloc vl.toNat
        if r3.length < vl.toNat then fail "failed to read value" else do
        let (kvs, rest) ← metaLoop n (r3.drop vl.toNat)
        ok (⟨r1.take kl.toNat, r3.take vl.toNat⟩ :: kvs, rest)

/-- size of a Go `KV` (two slice headers) -/
def kvSize : Nat := 48

/-- `UnmarshalWithDecoder` on the bytes: count byte, loop; `KeyVals` grows by `append` (at most doubling) -/
def metaDecode (bs : Bytes) : Res (List KV × Bytes) :=
  match bs with
  | [] => fail "failed to read number of key-value pairs"
  | c :: rest => do
    alloc (2 * kvSize * c.toNat)
    metaLoop c.toNat rest

/-- `Meta.UnmarshalBinary`: an empty slice is an empty `Meta` -/
def metaUnmarshal (bs : Bytes) : Res (List KV) :=
  if bs.isEmpty then ok [] else do
    let (kvs, _) ← metaDecode bs
    ok kvs

/-- `Meta.Get`: first value stored under the key -/
def metaGet : List KV → Bytes → Option Bytes
  | [], _ => none
  | kv :: r, k => if kv.key = k then some kv.val else metaGet r k

/-- `Meta.GetUint64` (repaired): a value shorter than 8 bytes is "not there" -/
def metaGetUint64 (m : List KV) (k : Bytes) : Res (Option Nat) :=
  match metaGet m k with
  | none => ok none
  | some v => if v.length < 8 then ok none else ok (some (unle (v.take 8)))

/-- pinned: `binary.LittleEndian.Uint64(value)` without a length check -/
def metaGetUint64Pinned (m : List KV) (k : Bytes) : Res (Option Nat) :=
  match metaGet m k with
  | none => ok none
  | some v => if v.length < 8 then crash "index out of range [7]" else ok (some (unle (v.take 8)))

/-- number of bytes the encoding of the pairs occupies (`len(meta.Bytes())`) -/
def metaByteSize (kvs : List KV) : Nat := 1 + (kvs.map fun kv => 2 + kv.key.length + kv.val.length).sum

/-- The rule for `match o with | none => fail e | some b => k b`; `safe_cid` is the same for `Option Nat`, `safe_uvarint`
    for an option of a pair: one copy per matcher, a lemma generic in the type does not unify at the uses.
    `generalizing := false` in all three: otherwise `hk` goes into the matcher, which then is not
    the one the definitions use, and `refine` does not unify -/
theorem safe_read {α : Type} {B : Nat} {P : α → Prop} {o : Option Bytes} {e : String} {k : Bytes → Res α}
    (hk : ∀ b, o = some b → SafeP B P (k b)) : SafeP B P (match (generalizing := false) o with | none => fail e | some b => k b) := by
  cases o with
  | none => exact safe_fail
  | some b => exact hk b rfl

/-- the bytes the metadata loop leaves are what follows the encoded pairs -/
theorem metaLoop_safe {n : Nat} {bs : Bytes} : SafeP 255
    (fun p => p.2.length + (p.1.map fun kv => 2 + kv.key.length + kv.val.length).sum = bs.length) (metaLoop n bs) := by
  induction n generalizing bs with
  | zero => exact safe_ok (by simp)
  | succ n ih =>
    unfold metaLoop
    cases bs with
    | nil => exact safe_fail
    | cons kl r1 =>
      refine safe_alloc_then (by have := kl.toNat_lt; omega) (safe_guard fun hk => ?_)
      cases hd : r1.drop kl.toNat with
      | nil => exact safe_fail
      | cons vl r3 =>
        refine safe_alloc_then (by have := vl.toNat_lt; omega) (safe_guard fun hv => ?_)
        refine safe_bind ih fun p hp => safe_ok ?_
        have hl : (r1.drop kl.toNat).length = r1.length - kl.toNat := List.length_drop
        rw [hd] at hl
        simp [List.length_take, List.length_drop] at *
        omega

/-- the largest request of the metadata codec: the `KeyVals` slice for 255 pairs -/
def metaMaxAlloc : Nat := 2 * kvSize * 255

theorem metaMaxAlloc_val : metaMaxAlloc = 24480 := by decide

theorem metaDecode_safe {bs : Bytes} :
    SafeP metaMaxAlloc (fun p => p.2.length + metaByteSize p.1 = bs.length) (metaDecode bs) := by
  have hv := metaMaxAlloc_val
  unfold metaDecode
  cases bs with
  | nil => exact safe_fail
  | cons c rest =>
    refine safe_alloc_then (by have := c.toNat_lt; unfold kvSize; omega) ?_
    exact metaLoop_safe.mono (by omega) fun p hp => by unfold metaByteSize; rw [List.length_cons]; omega

theorem metaUnmarshal_safe {bs : Bytes} : Safe metaMaxAlloc (metaUnmarshal bs) :=
  SafeP.safe <| safe_ite (fun _ => safe_ok trivial) fun _ => safe_bind metaDecode_safe fun _ _ => safe_ok trivial

theorem metaGetUint64_safe {m : List KV} {k : Bytes} : Safe 0 (metaGetUint64 m k) := by
  apply SafeP.safe
  unfold metaGetUint64
  cases metaGet m k with
  | none => exact safe_ok trivial
  | some v => exact safe_ite (fun _ => safe_ok trivial) fun _ => safe_ok trivial

/-! ## compactindexsized: `Open`, `Header.Load`, `GetBucket`, `Bucket.Lookup` -/

def ciMagic : Bytes := Generated.compactindexsizedMagic
def ciVersion : Nat := Generated.compactindexsizedVersion
def ciHashSize : Nat := Generated.hashSize
/-- `minHeaderLen`: value size (8), number of buckets (4), version (1) -/
def ciMinHeaderLen : Nat := 8 + 4 + 1
/-- `maxHeaderLen`: the fixed fields followed by the largest metadata section the format can express -/
def ciMaxHeaderLen : Nat :=
  ciMinHeaderLen + 1 + Generated.metaMaxNumKVs * (1 + Generated.metaMaxKeySize + 1 + Generated.metaMaxValueSize)

structure CIHeader where
  valueSize : Nat
  numBuckets : Nat
  kvs : List KV
  headerSize : Nat
  deriving Repr

/-- `Header.Load` (repaired) on the header buffer.  Indexing is explicit: `buf[24]?` is `crash` when out of range. -/
def ciLoad (buf : Bytes) : Res CIHeader :=
  if buf.length < 8 + 4 then fail "invalid header length" else
  if buf.take 8 ≠ ciMagic then fail "not a radiance compactindex file" else
  let l := leAt buf 8 4
  if l < ciMinHeaderLen ∨ l > ciMaxHeaderLen then fail "invalid header length" else
  if l + 8 + 4 > buf.length then fail "invalid header length" else
  let vs := leAt buf 12 8
  let nb := leAt buf 20 4
  match buf[24]? with
  | none => crash "index out of range [24]"
  | some v =>
    if v.toNat ≠ ciVersion then fail "unsupported index version" else do
    let kvs ← metaUnmarshal (buf.drop 25)
    if vs = 0 then fail "value size not set" else
    if nb = 0 then fail "number of buckets not set" else
    ok ⟨vs, nb, kvs, l + 8 + 4⟩

/-- `Open` (repaired): 12 bytes, magic, the length field bounded by what the format can express, then the header -/
def ciOpen (f : Bytes) : Res CIHeader :=
  match readAt f 0 12 with
  | none => fail "short read"
  | some ms =>
    if ms.take 8 ≠ ciMagic then fail "invalid magic" else
    let size := unle (ms.drop 8)
    if size < ciMinHeaderLen ∨ size > ciMaxHeaderLen then fail "invalid header length" else do
    make (8 + 4 + size) 1
    match readAt f 0 (8 + 4 + size) with
    | none => fail "short read"
    | some buf => ciLoad buf

/-- pinned `Header.Load`: slice expressions and `buf[24]` as the Go runtime evaluates them -/
def ciLoadPinned (buf : Bytes) : Res CIHeader :=
  if buf.length < 8 then crash "slice bounds out of range [:8]" else
  if buf.take 8 ≠ ciMagic then fail "not a radiance compactindex file" else
  if buf.length < 12 then crash "slice bounds out of range [:12]" else
  let l := leAt buf 8 4
  if l < 12 then fail "invalid header length" else
  if l > buf.length % 2 ^ 32 then fail "invalid header length" else
  if buf.length < 24 then crash "slice bounds out of range [:24]" else
  match buf[24]? with
  | none => crash "index out of range [24]"
  | some v =>
    if v.toNat ≠ ciVersion then fail "unsupported index version" else do
    let kvs ← metaUnmarshal (buf.drop 25)
    if leAt buf 12 8 = 0 then fail "value size not set" else
    if leAt buf 20 4 = 0 then fail "number of buckets not set" else
    ok ⟨leAt buf 12 8, leAt buf 20 4, kvs, l + 12⟩

/-- pinned `Open`: `make([]byte, 8+4+size)` in uint32 arithmetic, no bound on `size` -/
def ciOpenPinned (f : Bytes) : Res CIHeader :=
  match readAt f 0 12 with
  | none => fail "short read"
  | some ms =>
    if ms.take 8 ≠ ciMagic then fail "invalid magic" else
    let size := unle (ms.drop 8)
    let n := (8 + 4 + size) % 2 ^ 32
    Res.bind (make n 1) fun _ =>
    match readAt f 0 n with
    | none => fail "short read"
    | some buf => ciLoadPinned buf

structure CIBucket where
  hashDomain : Nat
  numEntries : Nat
  hashLen : Nat
  fileOffset : Nat
  stride : Nat
  offsetWidth : Nat
  deriving Repr

/-- `DB.GetBucket(i)` (repaired): index check, value size the uint8 stride can hold, bucket header, hash length -/
def ciGetBucket (f : Bytes) (h : CIHeader) (prefetch : Bool) (i : Nat) : Res CIBucket :=
  if i ≥ h.numBuckets then fail "out of bounds bucket index" else
  if h.valueSize > 255 - ciHashSize then fail "unsupported value size" else
  match readAt f (h.headerSize + i * 16) 16 with
  | none => fail "short read"
  | some b =>
    let bk : CIBucket := ⟨leAt b 0 4, leAt b 4 4, leAt b 8 1, leAt b 10 6, ciHashSize + h.valueSize, h.valueSize⟩
    if bk.hashLen > ciHashSize then fail "invalid bucket header" else do
    if prefetch then alloc (bk.stride * min 3000 bk.numEntries) else ok ()
    ok bk

/-- `Bucket.loadEntry(i)` + `unmarshalEntry`: the slice expressions are explicit -/
def ciLoadEntry (f : Bytes) (bk : CIBucket) (i : Nat) : Res (Nat × Bytes) := do
  alloc bk.stride
  if (i + 1) * bk.stride > bk.numEntries * bk.stride then fail "EOF" else
  match readAt f (bk.fileOffset + i * bk.stride) bk.stride with
  | none => fail "EOF"
  | some buf =>
    if bk.hashLen > buf.length then crash "slice bounds out of range" else do
    alloc bk.offsetWidth
    if bk.hashLen + bk.offsetWidth > buf.length then crash "slice bounds out of range" else
    ok (unle (buf.take bk.hashLen), slice buf bk.hashLen bk.offsetWidth)

/-- `searchEytzinger(0, NumEntries, target, loadEntry)`: the index at least doubles every round -/
def ciSearch (f : Bytes) (bk : CIBucket) (x : Nat) (index : Nat) : Res (Option Bytes) :=
  if h : index < bk.numEntries then
    Res.bind (ciLoadEntry f bk index) fun e =>
      if e.1 = x then ok (some e.2)
      else ciSearch f bk x (2 * index + 1 + (if e.1 < x then 1 else 0))
  else ok none
termination_by bk.numEntries - index
decreasing_by split <;> omega

/-- `DB.Lookup`: `bi` is what `BucketHash(key)` returned, `h64` what `EntryHash64(domain, key)` returns -/
def ciLookup (f : Bytes) (h : CIHeader) (prefetch : Bool) (bi : Nat) (h64 : Nat → Nat) : Res (Option Bytes) := do
  let bk ← ciGetBucket f h prefetch bi
  ciSearch f bk (h64 bk.hashDomain % 2 ^ (8 * bk.hashLen)) 0

theorem ciMaxHeaderLen_val : ciMaxHeaderLen = 130574 := by decide
theorem ciMinHeaderLen_val : ciMinHeaderLen = 13 := by decide
theorem ciHashSize_val : ciHashSize = 3 := by decide

/-- largest request of `Open`: the header buffer -/
def ciOpenMaxAlloc : Nat := 8 + 4 + ciMaxHeaderLen

theorem ciOpenMaxAlloc_val : ciOpenMaxAlloc = 130586 := by decide

theorem ciLoad_safe {buf : Bytes} : Safe ciOpenMaxAlloc (ciLoad buf) := by
  apply SafeP.safe
  have hmin := ciMinHeaderLen_val
  unfold ciLoad
  refine safe_guard fun _ => safe_guard fun _ => safe_guard fun _ => safe_guard fun _ => ?_
  -- `buf[24]` is in range: the length field `l` is at least `ciMinHeaderLen` = 13 and `l + 12 ≤ buf.length`
  rw [List.getElem?_eq_getElem (by omega : 24 < buf.length)]
  refine safe_guard fun _ => safe_step metaUnmarshal_safe.p (by decide) fun _ _ => ?_
  exact safe_guard fun _ => safe_guard fun _ => safe_ok trivial

theorem ciOpen_safe {f : Bytes} : Safe ciOpenMaxAlloc (ciOpen f) := by
  apply SafeP.safe
  have hmax := ciMaxHeaderLen_val
  unfold ciOpen
  refine safe_read fun ms _ => safe_guard fun _ => safe_guard fun _ => ?_
  refine safe_make_then (by unfold ciOpenMaxAlloc; omega) (by unfold goMaxAlloc; omega) ?_
  exact safe_read fun _ _ => ciLoad_safe.p

/-- largest request of a lookup: the prefetch buffer (3000 entries of at most 255 bytes) -/
def ciLookupMaxAlloc : Nat := 255 * 3000

theorem ciLookupMaxAlloc_val : ciLookupMaxAlloc = 765000 := by decide

/-- what `GetBucket` guarantees about a bucket handle -/
def CIBucket.WF (bk : CIBucket) : Prop := bk.hashLen ≤ ciHashSize ∧ bk.stride = ciHashSize + bk.offsetWidth ∧ bk.stride ≤ 255

theorem ciGetBucket_safe {f : Bytes} {h : CIHeader} {pf : Bool} {i : Nat} :
    SafeP ciLookupMaxAlloc CIBucket.WF (ciGetBucket f h pf i) := by
  have hh := ciHashSize_val
  unfold ciGetBucket
  refine safe_guard fun _ => safe_guard fun hvs => safe_read fun b _ => safe_guard fun hhl => ?_
  have wf : CIBucket.WF ⟨leAt b 0 4, leAt b 4 4, leAt b 8 1, leAt b 10 6, ciHashSize + h.valueSize, h.valueSize⟩ :=
    ⟨Nat.le_of_not_gt hhl, rfl, by dsimp only; omega⟩
  refine safe_ite (fun _ => safe_alloc_then ?_ (safe_ok wf)) fun _ => safe_bind (safe_ok (P := fun _ => True) trivial)
    fun _ _ => safe_ok wf
  exact Nat.mul_le_mul (by omega : ciHashSize + h.valueSize ≤ 255) (Nat.min_le_left _ _)

theorem ciLoadEntry_safe {f : Bytes} {bk : CIBucket} (hw : bk.WF) {i : Nat} : Safe ciLookupMaxAlloc (ciLoadEntry f bk i) := by
  apply SafeP.safe
  obtain ⟨h1, h2, h3⟩ := hw
  have hh := ciHashSize_val
  have hB := ciLookupMaxAlloc_val
  unfold ciLoadEntry
  refine safe_alloc_then (by omega) (safe_guard fun _ => safe_read fun buf hrd => ?_)
  have hl := readAt_length hrd
  refine safe_assert (by omega) (safe_alloc_then (by omega) (safe_assert (by omega) (safe_ok trivial)))

theorem ciSearch_safe {f : Bytes} {bk : CIBucket} (hw : bk.WF) {x : Nat} :
    ∀ (d index : Nat), bk.numEntries - index ≤ d → Safe ciLookupMaxAlloc (ciSearch f bk x index) := by
  intro d
  induction d with
  | zero =>
    intro index hd
    unfold ciSearch
    exact (safe_dite (fun h => absurd h (by omega)) fun _ => safe_ok trivial).safe
  | succ d ih =>
    intro index hd
    unfold ciSearch
    refine (safe_dite (fun _ => safe_bind (ciLoadEntry_safe hw).p fun e _ => ?_) fun _ => safe_ok trivial).safe
    exact safe_ite (fun _ => safe_ok trivial) fun _ => (ih _ (by split <;> omega)).p

theorem ciLookup_safe {f : Bytes} {h : CIHeader} {pf : Bool} {bi : Nat} {h64 : Nat → Nat} :
    Safe ciLookupMaxAlloc (ciLookup f h pf bi h64) :=
  SafeP.safe <| safe_bind ciGetBucket_safe fun _ hw => (ciSearch_safe hw _ _ (Nat.le_refl _)).p

/-! ## Go `binary.Uvarint` / `binary.ReadUvarint` -/

/-- value and number of bytes read, `none` = error (truncated, more than ten bytes, or a tenth byte above 1).
    `i` = bytes already consumed.  The value is `Σ dⱼ·2^(7j)`; `x | uint64(b)<<s` never carries. -/
def goUvarint : Bytes → Nat → Option (Nat × Nat)
  | [], _ => none
  | b :: rest, i =>
    if i ≥ 10 then none
    else if b.toNat < 128 then
      (if i = 9 ∧ b.toNat > 1 then none else some (b.toNat * 2 ^ (7 * i), i + 1))
    else match goUvarint rest (i + 1) with
      | some (v, n) => some ((b.toNat - 128) * 2 ^ (7 * i) + v, n)
      | none => none

theorem digit_bound {d c p : Nat} (hd : d < c) : d * p + p ≤ c * p := by
  rw [← Nat.succ_mul]; exact Nat.mul_le_mul_right p hd

/-- the first conjunct is the invariant that makes the induction go through: the value so far is below the next weight -/
theorem goUvarint_spec : ∀ (bs : Bytes) (i v n : Nat), goUvarint bs i = some (v, n) →
    v + 2 ^ (7 * i) ≤ 2 ^ 64 ∧ i < n ∧ n ≤ i + bs.length := by
  intro bs
  induction bs with
  | nil => intro i v n h; cases h
  | cons b rest ih =>
    intro i v n h
    have hp : 2 ^ (7 * (i + 1)) = 128 * 2 ^ (7 * i) := by rw [Nat.mul_add, Nat.pow_add, Nat.mul_comm]
    have hl : (b :: rest).length = rest.length + 1 := rfl
    unfold goUvarint at h
    split at h; · cases h
    split at h
    · -- the last byte: at most 1 at weight 2^63, otherwise below the next weight, which is at most 2^63
      rename_i hb
      split at h; · cases h
      cases h
      refine ⟨?_, Nat.lt_succ_self i, by omega⟩
      by_cases hi9 : i = 9
      · subst hi9
        exact digit_bound (c := 2) (by omega)
      · have := Nat.pow_le_pow_right (by decide : 0 < 2) (by omega : 7 * (i + 1) ≤ 63)
        have := digit_bound (p := 2 ^ (7 * i)) hb
        omega
    · split at h
      · rename_i v' n' hrec
        cases h
        obtain ⟨h1, h2, h3⟩ := ih (i + 1) v' n hrec
        have := digit_bound (d := b.toNat - 128) (c := 128) (p := 2 ^ (7 * i)) (by have := b.toNat_lt; omega)
        omega
      · cases h

theorem goUvarint_lt {bs : Bytes} {v n : Nat} (h : goUvarint bs 0 = some (v, n)) : v < 2 ^ 64 ∧ 0 < n ∧ n ≤ bs.length := by
  have := goUvarint_spec bs 0 v n h
  simp at this
  omega

/-! ## indexes: `OffsetAndSize.FromBytes`, `OffsetAndSizeSliceFromBytes`, `getDefaultMetadata` -/

/-- `FromBytes`: exactly 9 bytes; `BtoUint48(buf[:6])` and `BtoUint24(buf[6:])` with their `_ = buf[k]` bounds hints -/
def oasFromBytes (buf : Bytes) : Res (Nat × Nat) :=
  if buf.length ≠ 9 then fail "invalid byte slice length" else
  match (buf.take 6)[5]?, (buf.drop 6)[2]? with
  | some _, some _ => do
    alloc 8
    alloc 4
    ok (unle (buf.take 6), unle (buf.drop 6))
  | _, _ => crash "index out of range"

/-- the loop of `OffsetAndSizeSliceFromBytes`: `buf[i*9:(i+1)*9]` is an explicit slice expression -/
def oasLoop : Nat → Bytes → Res (List (Nat × Nat))
  | 0, _ => ok []
  | n+1, bs =>
    if (bs.take 9).length < 9 then crash "slice bounds out of range" else do
    let x ← oasFromBytes (bs.take 9)
    let r ← oasLoop n (bs.drop 9)
    ok (x :: r)

def oasSliceFromBytes (buf : Bytes) : Res (List (Nat × Nat)) :=
  if buf.length % 9 ≠ 0 then fail "invalid byte slice length" else do
  make (buf.length / 9) 16
  oasLoop (buf.length / 9) buf

theorem oasFromBytes_safe {buf : Bytes} : Safe 8 (oasFromBytes buf) := by
  apply SafeP.safe
  unfold oasFromBytes
  refine safe_guard fun hl => ?_
  have hl : buf.length = 9 := by omega
  rw [List.getElem?_eq_getElem (by rw [List.length_take]; omega : 5 < (buf.take 6).length),
    List.getElem?_eq_getElem (by rw [List.length_drop]; omega : 2 < (buf.drop 6).length)]
  exact safe_alloc_then (by omega) (safe_alloc_then (by omega) (safe_ok trivial))

theorem oasLoop_safe {B : Nat} (hB : 8 ≤ B) : ∀ (n : Nat) (bs : Bytes), 9 * n ≤ bs.length → Safe B (oasLoop n bs) := by
  intro n
  induction n with
  | zero => intro bs _; exact (safe_ok trivial).safe
  | succ n ih =>
    intro bs h
    unfold oasLoop
    refine (safe_assert (by rw [List.length_take]; omega) ?_).safe
    refine safe_step oasFromBytes_safe.p hB fun _ _ => ?_
    exact safe_bind (ih _ (by rw [List.length_drop]; omega)).p fun _ _ => safe_ok trivial

/-- a byte string that exists as a Go slice: at most 2^47 bytes (Go itself cannot allocate more than 2^48) -/
def InMemory (bs : Bytes) : Prop := bs.length ≤ 2 ^ 47

theorem oasSliceFromBytes_safe {buf : Bytes} (hm : InMemory buf) : Safe (2 * buf.length + 8) (oasSliceFromBytes buf) := by
  apply SafeP.safe
  have hd : buf.length / 9 * 9 ≤ buf.length := Nat.div_mul_le_self _ _
  unfold InMemory at hm
  unfold oasSliceFromBytes
  refine safe_guard fun _ => safe_make_then (by omega) (by unfold goMaxAlloc; omega) ?_
  exact (oasLoop_safe (by omega) _ _ (by omega)).p

/-- the metadata keys of indexmeta/keys.go: "kind", "epoch", "rootCid", "network" -/
def keyKind : Bytes := [107, 105, 110, 100]
def keyEpoch : Bytes := [101, 112, 111, 99, 104]
def keyRootCid : Bytes := [114, 111, 111, 116, 67, 105, 100]
def keyNetwork : Bytes := [110, 101, 116, 119, 111, 114, 107]

/-- `getDefaultMetadata` (repaired): kind, epoch (at least 8 bytes), root CID (go-cid's verdict `castOk`), network -/
def defaultMetadata (kvs : List KV) (castOk : Bool) : Res Nat :=
  match metaGet kvs keyKind with
  | none => fail "metadata.kind is empty"
  | some _ =>
    match metaGet kvs keyEpoch with
    | none => fail "metadata.epoch is empty"
    | some e =>
      if e.length < 8 then fail "metadata.epoch has invalid length" else
      match e[7]? with
      | none => crash "index out of range [7]"
      | some _ =>
        match metaGet kvs keyRootCid with
        | none => fail "metadata.rootCid is empty"
        | some _ =>
          if !castOk then fail "invalid cid" else
          match metaGet kvs keyNetwork with
          | none => fail "metadata.network is empty"
          | some _ => ok (unle (e.take 8))

/-- pinned: `BtoUint64(epochBytes)` starts with `_ = buf[7]` -/
def defaultMetadataPinned (kvs : List KV) (castOk : Bool) : Res Nat :=
  match metaGet kvs keyKind with
  | none => fail "metadata.kind is empty"
  | some _ =>
    match metaGet kvs keyEpoch with
    | none => fail "metadata.epoch is empty"
    | some e =>
      match e[7]? with
      | none => crash "index out of range [7]"
      | some _ =>
        match metaGet kvs keyRootCid with
        | none => fail "metadata.rootCid is empty"
        | some _ =>
          if !castOk then fail "invalid cid" else
          match metaGet kvs keyNetwork with
          | none => fail "metadata.network is empty"
          | some _ => ok (unle (e.take 8))

theorem defaultMetadata_safe {kvs : List KV} {c : Bool} : Safe 0 (defaultMetadata kvs c) := by
  apply SafeP.safe
  unfold defaultMetadata
  refine safe_read fun _ _ => safe_read fun e _ => safe_guard fun hl => ?_
  rw [List.getElem?_eq_getElem (by omega : 7 < e.length)]
  exact safe_read fun _ _ => safe_guard fun _ => safe_read fun _ _ => safe_ok trivial

/-! ## bucketteer: `NewReader` / `readHeader` -/

def bkMagic : Bytes := Generated.bucketteerMagic
def bkVersion : Nat := Generated.bucketteerVersion
/-- `maxHeaderSize`: magic, version, the largest metadata section, the prefix count, one pair per 16-bit prefix -/
def bkMaxHeaderSize : Nat :=
  8 + 8 + (1 + Generated.metaMaxNumKVs * (1 + Generated.metaMaxKeySize + 1 + Generated.metaMaxValueSize)) + 8 + 65536 * (2 + 8)

theorem bkMaxHeaderSize_val : bkMaxHeaderSize = 785945 := by decide

/-- the `for i < numPrefixes` loop: `decoder.Read(prefix[:])` is all-or-nothing, `ReadUint64` needs 8 bytes.
    Accumulator form (constant stack on the 65536 pairs of a real file; lengths are only taken of short prefixes). -/
def bkPrefixAux : Nat → Bytes → List (Nat × Nat) → Option (List (Nat × Nat))
  | 0, _, acc => some acc.reverse
  | n+1, bs, acc =>
    if (bs.take 2).length < 2 then none else
    if ((bs.drop 2).take 8).length < 8 then none else
    bkPrefixAux n (bs.drop 10) ((unle (bs.take 2), unle ((bs.drop 2).take 8)) :: acc)

def bkPrefixLoop (n : Nat) (bs : Bytes) : Res (List (Nat × Nat)) :=
  ofOption "failed to read prefixes / offsets" (bkPrefixAux n bs [])

structure BkHeader where
  table : List (Nat × Nat)
  kvs : List KV
  headerTotal : Nat

/-- a `bucketToOffset` table of 65536 uint64 (`bkOpen` allocates two) -/
def bkLayoutBytes : Nat := 8 * 65536

/-- `NewReader` (repaired): empty check, header size bounded by what the format can express, header decode -/
def bkOpen (f : Bytes) : Res BkHeader := do
  alloc 1
  if f.length = 0 then fail "reader is empty" else do
  alloc bkLayoutBytes
  alloc 4
  match readAt f 0 4 with
  | none => fail "failed to read header size"
  | some szb =>
    let hs := unle szb
    if hs > bkMaxHeaderSize then fail "invalid header size" else do
    make hs 1
    if 4 + hs > f.length ∨ f.length ≤ 4 then fail "failed to read header bytes" else
    let hb := slice f 4 hs
    Res.bind (alloc 8) fun _ =>
    if hb.length < 8 then fail "failed to read magic" else
    if hb.take 8 ≠ bkMagic then fail "invalid magic" else
    if (hb.drop 8).length < 8 then fail "failed to read version" else
    if unle ((hb.drop 8).take 8) ≠ bkVersion then fail "expected version" else do
    let (kvs, rest) ← metaDecode (hb.drop 16)
    if rest.length < 8 then fail "failed to read numPrefixes" else do
    alloc bkLayoutBytes
    let tbl ← bkPrefixLoop (unle (rest.take 8)) (rest.drop 8)
    ok ⟨tbl, kvs, hs + 4⟩

/-- pinned: `make([]byte, headerSize)` for whatever the first four bytes say -/
def bkOpenPinnedAlloc (f : Bytes) : Res Unit := do
  alloc 1
  if f.length = 0 then fail "reader is empty" else do
  match readAt f 0 4 with
  | none => fail "failed to read header size"
  | some szb =>
    make (unle szb) 1
    if 4 + unle szb > f.length ∨ f.length ≤ 4 then fail "failed to read header bytes" else ok ()

theorem bkPrefixLoop_safe {n : Nat} {bs : Bytes} : Safe 0 (bkPrefixLoop n bs) := safe_ofOption

def bkOpenMaxAlloc : Nat := bkMaxHeaderSize

theorem bkOpen_safe {f : Bytes} : Safe bkOpenMaxAlloc (bkOpen f) := by
  apply SafeP.safe
  have hv := bkMaxHeaderSize_val
  have hb : bkLayoutBytes ≤ bkMaxHeaderSize := by decide
  unfold bkOpen bkOpenMaxAlloc
  refine safe_alloc_then (by omega) (safe_guard fun _ => ?_)
  refine safe_alloc_then hb (safe_alloc_then (by omega) (safe_read fun szb _ => safe_guard fun _ => ?_))
  refine safe_make_then (by omega) (by unfold goMaxAlloc; omega) (safe_guard fun _ => ?_)
  refine safe_alloc_then (by omega) ?_
  refine safe_guard fun _ => safe_guard fun _ => safe_guard fun _ => safe_guard fun _ => ?_
  refine safe_step metaDecode_safe (by decide) fun p _ => safe_guard fun _ => safe_alloc_then hb ?_
  exact safe_step bkPrefixLoop_safe.p (Nat.zero_le _) fun _ _ => safe_ok trivial

/-! ## bucketteer: `Reader.Has` -/

/-- `prefixToOffset[prefix]`: the table starts out as all-ones, later pairs overwrite earlier ones -/
def bkFind : List (Nat × Nat) → Nat → Option Nat
  | [], _ => none
  | (p, o) :: rest, q =>
    match bkFind rest q with
    | some r => some r
    | none => if p = q then some o else none

def bkLookup (tbl : List (Nat × Nat)) (q : Nat) : Nat :=
  match bkFind tbl q with
  | some o => o
  | none => 2 ^ 64 - 1

/-- `searchEytzinger(0, numHashes, wanted, readUint64Le(bucketReader, index*8))`: `nbytes` is the size the bucket's
    section reader was given (`numHashes*8` in uint32 arithmetic) -/
def bkSearch (f : Bytes) (start nbytes max x : Nat) (index : Nat) : Res Bool :=
  if _h : index < max then
    Res.bind (alloc 8) fun _ =>
    if index * 8 + 8 > nbytes then fail "EOF" else
    match readAt f (start + index * 8) 8 with
    | none => fail "EOF"
    | some b =>
      if unle b = x then ok true
      else bkSearch f start nbytes max x (2 * index + 1 + (if unle b < x then 1 else 0))
  else ok false
termination_by max - index
decreasing_by split <;> omega

/-- `Has(sig)`: `p` = the first two bytes of the signature as a little-endian number, `wanted` = xxhash64(sig) -/
def bkHas (f : Bytes) (h : BkHeader) (p wanted : Nat) : Res Bool :=
  let offset := bkLookup h.table p
  if offset = 2 ^ 64 - 1 then ok false else do
  alloc 4
  if offset ≥ 2 ^ 63 then fail "EOF" else
  match readAt f (h.headerTotal + offset) 4 with
  | none => fail "EOF"
  | some nb => bkSearch f (h.headerTotal + offset + 4) ((unle nb * 8) % 2 ^ 32) (unle nb) wanted 0

theorem bkSearch_safe {f : Bytes} {start nbytes max x : Nat} :
    ∀ (d index : Nat), max - index ≤ d → Safe 8 (bkSearch f start nbytes max x index) := by
  intro d
  induction d with
  | zero =>
    intro index hd
    unfold bkSearch
    exact (safe_dite (fun h => absurd h (by omega)) fun _ => safe_ok trivial).safe
  | succ d ih =>
    intro index hd
    unfold bkSearch
    refine (safe_dite (fun _ => safe_alloc_then (Nat.le_refl _) (safe_guard fun _ => safe_read fun b _ => ?_))
      fun _ => safe_ok trivial).safe
    exact safe_ite (fun _ => safe_ok trivial) fun _ => (ih _ (by split <;> omega)).p

theorem bkHas_safe {f : Bytes} {h : BkHeader} {p wanted : Nat} : Safe 8 (bkHas f h p wanted) := by
  apply SafeP.safe
  unfold bkHas
  refine safe_ite (fun _ => safe_ok trivial) fun _ => safe_alloc_then (by omega) (safe_guard fun _ => ?_)
  exact safe_read fun nb _ => (bkSearch_safe _ _ (Nat.le_refl _)).p

/-! ## blocktimeindex: `unmarshalBinary`, `Get` -/

/-- "blocktimeindex" -/
def btMagic : Bytes := [98, 108, 111, 99, 107, 116, 105, 109, 101, 105, 110, 100, 101, 120]
def epochLen : Nat := Generated.epochLen

structure BT where
  start : Nat
  stop : Nat
  epoch : Nat
  capacity : Nat
  values : List Nat
  deriving Repr

/-- the value loop: `io.ReadFull(reader, timeBuf)` — four bytes or an error;
    written with an accumulator so that the compiled driver runs it in constant stack on a full epoch (432000 values) -/
def btValuesAux : Nat → Bytes → List Nat → Option (List Nat)
  | 0, _, acc => some acc.reverse
  | n+1, bs, acc => if (bs.take 4).length < 4 then none else btValuesAux n (bs.drop 4) (unle (bs.take 4) :: acc)

/-- each round `make`s a 4-byte buffer: one `alloc 4` stands for all of them (only the maximum is recorded) -/
def btValues (n : Nat) (bs : Bytes) : Res (List Nat) := do
  alloc 4
  ofOption "failed to read time" (btValuesAux n bs [])

/-- one header field: `make([]byte, 8)` + `io.ReadFull` (eight bytes or an error) -/
def btField (bs : Bytes) : Res (Nat × Bytes) := do
  alloc 8
  if (bs.take 8).length < 8 then fail "failed to read field" else ok (unle (bs.take 8), bs.drop 8)

/-- `unmarshalBinary`; `checked = true` is the repaired code (capacity compared with the bytes that are left) -/
def btUnmarshalG (checked : Bool) (data : Bytes) : Res BT := do
  alloc 14
  if (data.take 14).length < 14 then fail "failed to read magic" else
  if data.take 14 ≠ btMagic then fail "invalid magic" else do
  let (start, r1) ← btField (data.drop 14)
  let (stop, r2) ← btField r1
  let (epoch, r3) ← btField r2
  if start / epochLen ≠ stop / epochLen then fail "start and end slots must be in the same epoch" else
  if start / epochLen ≠ epoch then fail "epoch mismatch" else do
  let (capacity, r4) ← btField r3
  if checked ∧ capacity > r4.length / 4 then fail "capacity exceeds the data" else do
  make capacity 8
  let values ← btValues capacity r4
  ok ⟨start, stop, epoch, capacity, values⟩

def btUnmarshal := btUnmarshalG true
def btUnmarshalPinned := btUnmarshalG false

/-- `Get(slot)`: `none` = slot-out-of-range error; the index expression is explicit -/
def btGetG (checked : Bool) (i : BT) (slot : Nat) : Res (Option Nat) :=
  if slot < i.start ∨ slot > i.stop then ok none else
  if checked ∧ slot - i.start ≥ i.values.length then ok none else
  match i.values[slot - i.start]? with
  | some v => ok (some v)
  | none => crash "index out of range"

def btGet := btGetG true
def btGetPinned := btGetG false

theorem btValues_safe {n : Nat} {bs : Bytes} : Safe 4 (btValues n bs) :=
  SafeP.safe <| safe_alloc_then (Nat.le_refl _) safe_ofOption.p

theorem btField_safe {bs : Bytes} : SafeP 8 (fun p => p.2.length ≤ bs.length) (btField bs) :=
  safe_alloc_then (Nat.le_refl _) (safe_guard fun _ => safe_ok (List.length_drop ▸ Nat.sub_le _ _))

theorem btUnmarshal_safe {data : Bytes} (hm : InMemory data) : Safe (2 * data.length + 14) (btUnmarshal data) := by
  apply SafeP.safe
  have ld : (data.drop 14).length ≤ data.length := by rw [List.length_drop]; omega
  unfold InMemory at hm
  unfold btUnmarshal btUnmarshalG
  refine safe_alloc_then (by omega) (safe_guard fun _ => safe_guard fun _ => ?_)
  refine safe_step btField_safe (by omega) fun (start, r1) l1 => safe_step btField_safe (by omega) fun (stop, r2) l2 => ?_
  refine safe_step btField_safe (by omega) fun (epoch, r3) l3 => safe_guard fun _ => safe_guard fun _ => ?_
  refine safe_step btField_safe (by omega) fun (capacity, r4) l4 => safe_guard fun hcap => ?_
  dsimp only at l1 l2 l3 l4
  -- the repaired check: the values fit into what is left of the input
  have hc : capacity ≤ r4.length / 4 := Nat.le_of_not_gt fun h => hcap ⟨rfl, h⟩
  have hc4 : capacity * 4 ≤ r4.length := Nat.le_trans (Nat.mul_le_mul_right 4 hc) (Nat.div_mul_le_self _ _)
  refine safe_make_then (by omega) (by unfold goMaxAlloc; omega) ?_
  exact safe_step btValues_safe.p (by omega) fun _ _ => safe_ok trivial

theorem btGet_safe {i : BT} {slot : Nat} : Safe 0 (btGet i slot) := by
  apply SafeP.safe
  unfold btGet btGetG
  refine safe_ite (fun _ => safe_ok trivial) fun _ => safe_ite (fun _ => safe_ok trivial) fun h => ?_
  have hlt : slot - i.start < i.values.length := Nat.lt_of_not_le fun hge => h ⟨rfl, hge⟩
  rw [List.getElem?_eq_getElem hlt]
  exact safe_ok trivial

/-! ## CAR sections: `ReadSectionLength`, `ReadNodeInfoWithData`, `ReadNodeInfoWithoutData`, `parseNodeFromSection`,
`readNodeSizeFromReaderAtWithOffset`.  `cidLen` is go-cid's `CidFromReader` on the bytes it is handed: the number of
bytes it consumed, or `none`; the only fact used about it is `CidSpec`: it consumes no more than it was given. -/

/-- go-car `util.MaxAllowedSectionSize` -/
def maxSection : Nat := 32 * 2 ^ 20
/-- the caller's `bufio.Reader` -/
def bufioSize : Nat := 4096

def CidSpec (cidLen : Bytes → Option Nat) : Prop := ∀ b n, cidLen b = some n → n ≤ b.length

/-- `ReadSectionLength`: `Peek(1)`, `binary.ReadUvarint`, the section limit; returns (length, width of the prefix) -/
def readSectionLength (bs : Bytes) : Res (Nat × Nat) :=
  if bs.isEmpty then fail "failed to peek" else
  match goUvarint bs 0 with
  | none => fail "bad uvarint"
  | some (l, n) => if l > maxSection then fail "malformed car; header is bigger than util.MaxAllowedSectionSize" else ok (l, n)

/-- `ReadNodeInfoWithData`; `checked = true` is the repaired code. Result: (section length incl. prefix, data length) -/
def readNodeInfoWithDataG (checked : Bool) (cidLen : Bytes → Option Nat) (bs : Bytes) : Res (Nat × Nat) := do
  alloc bufioSize
  let (l, n) ← readSectionLength bs
  match cidLen (bs.drop n) with
  | none => fail "failed to read cid"
  | some cl =>
    if checked ∧ l < cl then fail "malformed car; section length is smaller than the length of its CID" else
    -- `make([]byte, int64(sectionLen) - int64(cidLen))`: a negative length panics
    if l < cl then crash "makeslice: len out of range" else do
    make (l - cl) 1
    if (bs.drop (n + cl)).length < l - cl then fail "failed to read block" else ok (l + n, l - cl)

def readNodeInfoWithData := readNodeInfoWithDataG true
def readNodeInfoWithDataPinned := readNodeInfoWithDataG false

/-- `ReadNodeInfoWithoutData` (repaired): same checks, the data is skipped with `io.CopyN` -/
def readNodeInfoWithoutData (cidLen : Bytes → Option Nat) (bs : Bytes) : Res Nat := do
  alloc bufioSize
  let (l, n) ← readSectionLength bs
  match cidLen (bs.drop n) with
  | none => fail "failed to read cid"
  | some cl =>
    if l < cl then fail "malformed car; section length is smaller than the length of its CID" else
    if (bs.drop (n + cl)).length < l - cl then fail "EOF" else ok (l + n)

theorem safe_uvarint {α : Type} {B : Nat} {P : α → Prop} {o : Option (Nat × Nat)} {e : String} {k : Nat → Nat → Res α}
    (hk : ∀ v n, o = some (v, n) → SafeP B P (k v n)) :
    SafeP B P (match (generalizing := false) o with | none => fail e | some (v, n) => k v n) := by
  cases o with
  | none => exact safe_fail
  | some p => exact hk p.1 p.2 rfl

theorem safe_cid {α : Type} {B : Nat} {P : α → Prop} {o : Option Nat} {e : String} {k : Nat → Res α}
    (hk : ∀ n, o = some n → SafeP B P (k n)) :
    SafeP B P (match (generalizing := false) o with | none => fail e | some n => k n) := by
  cases o with
  | none => exact safe_fail
  | some n => exact hk n rfl

theorem readSectionLength_safe {bs : Bytes} : SafeP 0 (fun p => p.1 ≤ maxSection) (readSectionLength bs) :=
  safe_guard fun _ => safe_uvarint fun _ _ _ => safe_guard fun h => safe_ok (Nat.le_of_not_gt h)

/-- the largest request of a section read: the section limit (the input length does not enter) -/
def sectionMaxAlloc : Nat := maxSection + bufioSize

theorem sectionMaxAlloc_val : sectionMaxAlloc = 33558528 := by decide

theorem readNodeInfoWithData_safe {cidLen : Bytes → Option Nat} {bs : Bytes} :
    Safe sectionMaxAlloc (readNodeInfoWithData cidLen bs) := by
  apply SafeP.safe
  have hs : maxSection = 33554432 := by decide
  unfold readNodeInfoWithData readNodeInfoWithDataG sectionMaxAlloc
  refine safe_alloc_then (by omega) (safe_step readSectionLength_safe (Nat.zero_le _) fun (l, n) hl => ?_)
  dsimp only at hl
  -- the repaired check is what makes the runtime's check of `make`'s argument pass
  refine safe_cid fun cl _ => safe_guard fun h1 => safe_assert (fun h2 => h1 ⟨rfl, h2⟩) ?_
  exact safe_make_then (by omega) (by unfold goMaxAlloc; omega) (safe_guard fun _ => safe_ok trivial)

theorem readNodeInfoWithoutData_safe {cidLen : Bytes → Option Nat} {bs : Bytes} :
    Safe sectionMaxAlloc (readNodeInfoWithoutData cidLen bs) := by
  apply SafeP.safe
  unfold readNodeInfoWithoutData
  refine safe_alloc_then (by decide) (safe_step readSectionLength_safe (Nat.zero_le _) fun p _ => ?_)
  exact safe_cid fun cl _ => safe_guard fun _ => safe_guard fun _ => safe_ok trivial

/-- `parseNodeFromSection(section, wantedCid)`: uvarint, section limit, CID, comparison with the wanted CID
    (`want = none`: no comparison), then the slice expression `data[cidLen:]`.  Result: length of the object. -/
def parseNodeFromSection (cidLen : Bytes → Option Nat) (sec : Bytes) (want : Option Bytes) : Res Nat :=
  match goUvarint sec 0 with
  | none => fail "failed to decode uvarint"
  | some (gotLen, usize) =>
    if gotLen > maxSection then fail "malformed car; header is bigger than util.MaxAllowedSectionSize" else
    let data := sec.drop usize
    match cidLen data with
    | none => fail "failed to read cid"
    | some cl =>
      if want.isSome ∧ want ≠ some (data.take cl) then fail "CID mismatch" else
      if cl > data.length then crash "slice bounds out of range" else ok (data.drop cl).length

theorem parseNodeFromSection_safe {cidLen : Bytes → Option Nat} (hc : CidSpec cidLen) {sec : Bytes} {want : Option Bytes} :
    Safe 0 (parseNodeFromSection cidLen sec want) := by
  apply SafeP.safe
  unfold parseNodeFromSection
  refine safe_uvarint fun gotLen usize _ => safe_guard fun _ => safe_cid fun cl hcl => safe_guard fun _ => ?_
  exact safe_assert (Nat.not_lt.mpr (hc _ _ hcl)) (safe_ok trivial)

/-- `readNodeFromReaderAtWithOffsetAndSize(reader, nil, offset, length)`: `length` bytes at `offset` (the values an
    index entry holds), then `parseNodeFromSection` -/
def readNodeAt (cidLen : Bytes → Option Nat) (f : Bytes) (off len : Nat) : Res Nat := do
  make len 1
  if off ≥ 2 ^ 63 then fail "negative offset" else
  if off + len > f.length ∨ off ≥ f.length then fail "EOF" else
  parseNodeFromSection cidLen (slice f off len) none

theorem readNodeAt_safe (cidLen : Bytes → Option Nat) (hc : CidSpec cidLen) (f : Bytes) (off len : Nat) (hl : len ≤ goMaxAlloc) :
    Safe len (readNodeAt cidLen f off len) := by
  apply SafeP.safe
  unfold readNodeAt
  refine safe_make_then (by omega) (by omega) (safe_guard fun _ => safe_guard fun _ => ?_)
  exact (safe_mono (parseNodeFromSection_safe hc) (Nat.zero_le _)).p

/-- `readNodeSizeFromReaderAtWithOffset`: ten bytes at the offset (a short read is an error), `binary.Uvarint`, and
    `dataLen += uint64(n)` in uint64 arithmetic — unchecked: `n` is 0 when all ten bytes carry the continuation bit
    (the result is then 0) and −10 when the tenth byte overflows (the sum is then far above the section limit); a
    ten-byte encoding of a value near 2^64 wraps around to a small number.  Then the section limit. -/
def readNodeSize (f : Bytes) (off : Nat) : Res Nat := do
  alloc 10
  if off ≥ 2 ^ 63 then fail "negative offset" else
  match readAt f off 10 with
  | none => fail "EOF"
  | some lb =>
    let dataLen := match goUvarint lb 0 with
      | some (v, n) => (v + n) % 2 ^ 64
      | none => if lb.all (fun b => b.toNat ≥ 128) then 0 else 2 ^ 64 - 10
    if dataLen > maxSection then fail "malformed car; header is bigger than util.MaxAllowedSectionSize" else ok dataLen

theorem readNodeSize_safe {f : Bytes} {off : Nat} : Safe 10 (readNodeSize f off) :=
  SafeP.safe <| safe_alloc_then (Nat.le_refl _) (safe_guard fun _ => safe_read fun _ _ => safe_guard fun _ => safe_ok trivial)

/-! ## the kind byte `data[1]` -/

/-- `iplddecoders.GetKind` (what every dispatch site uses after the repair) -/
def getKind (data : Bytes) : Res Nat :=
  if data.length = 0 then fail "empty bytes" else
  if data.length < 2 then fail "not enough bytes" else
  match data[1]? with
  | some k => ok k.toNat
  | none => crash "index out of range [1]"

/-- pinned dispatch sites: `iplddecoders.Kind(data[1])` -/
def kindPinned (data : Bytes) : Res Nat :=
  match data[1]? with
  | some k => ok k.toNat
  | none => crash "index out of range [1]"

theorem getKind_safe {data : Bytes} : Safe 0 (getKind data) := by
  apply SafeP.safe
  unfold getKind
  refine safe_guard fun _ => safe_guard fun h2 => ?_
  rw [List.getElem?_eq_getElem (by omega : 1 < data.length)]
  exact safe_ok trivial

/-! ## `readFirstSignature` (index-sig-to-cid.go): compact-u16 count, then 64 bytes -/

/-- gagliardetto/binary `DecodeCompactU16`, before the range check: value and number of bytes -/
def cu16 : Bytes → Nat → Option (Nat × Nat)
  | [], _ => none
  | b :: rest, nth =>
    if nth ≥ 3 then none
    else if b.toNat = 0 ∧ nth ≠ 0 then none
    else if nth = 2 ∧ b.toNat ≥ 128 then none
    else if b.toNat < 128 then some (b.toNat * 2 ^ (7 * nth), nth + 1)
    else match cu16 rest (nth + 1) with
      | some (v, n) => some ((b.toNat - 128) * 2 ^ (7 * nth) + v, n)
      | none => none

def compactU16 (bs : Bytes) : Option (Nat × Nat) :=
  match cu16 bs 0 with
  | some (v, n) => if v > 65535 then none else some (v, n)
  | none => none

/-- `readFirstSignature`: the count must decode and be non-zero; `decoder.Read(sig[:])` is all-or-nothing -/
def readFirstSignature (buf : Bytes) : Res Bytes :=
  match compactU16 buf with
  | none => fail "bad compact-u16"
  | some (numSigs, size) =>
    if numSigs = 0 then fail "no signatures" else do
    alloc 64
    if (buf.drop size).length < 64 then fail "short buffer" else ok ((buf.drop size).take 64)

theorem readFirstSignature_safe {buf : Bytes} : Safe 64 (readFirstSignature buf) :=
  SafeP.safe <| safe_uvarint fun _ _ _ => safe_guard fun _ => safe_alloc_then (Nat.le_refl _) (safe_guard fun _ => safe_ok trivial)

/-! ## gsfa linked log: `Read`, `ReadWithSize` framing (after fixes C06-2 and C12), entry lists -/

def llMaxRecord : Nat := 256 * 2 ^ 20

/-- the framing part of `ReadWithSize(offset, size)`: the zstd payload and the pointer to the previous record.
    `checked = true` has the comparison with the file size (fix C12); `size` is a uint64. -/
def llFrameG (checked : Bool) (f : Bytes) (off size : Nat) : Res (Bytes × (Nat × Nat)) :=
  if size > llMaxRecord then fail "compacted indexes length too large" else
  if checked ∧ (off > f.length ∨ size > f.length - off) then fail "record exceeds the file size" else do
  make size 1
  -- `s.file.ReadAt(record, int64(offset))`: a negative offset or a short read is an error
  if off ≥ 2 ^ 63 then fail "negative offset" else
  match readAt f off size with
  | none => fail "EOF"
  | some record =>
    match goUvarint record 0 with
    | none => fail "invalid record"
    | some (payloadLen, n) =>
      if (n + payloadLen) % 2 ^ 64 ≠ size ∨ payloadLen < 9 then fail "invalid record" else
      let data := record.drop n
      -- `data[:len(data)-9]` and `data[len(data)-9:]`
      if data.length < 9 then crash "slice bounds out of range" else do
      let next ← oasFromBytes (data.drop (data.length - 9))
      ok (data.take (data.length - 9), next)

def llFrame := llFrameG true

/-- `Read(offset)`: ten bytes at the offset, `binary.Uvarint`, then `ReadWithSize(offset, n + payloadLen)` (uint64 sum) -/
def llRead (f : Bytes) (off : Nat) : Res (Bytes × (Nat × Nat)) := do
  alloc 10
  if off ≥ 2 ^ 63 then fail "negative offset" else
  match readAt f off 10 with
  | none => fail "EOF"
  | some lb =>
    match goUvarint lb 0 with
    | none => fail "invalid compacted indexes length"
    | some (l, n) => llFrame f off ((n + l) % 2 ^ 64)

theorem llFrame_safe {f : Bytes} {off size : Nat} : Safe (f.length + 10) (llFrame f off size) := by
  apply SafeP.safe
  have hlm : llMaxRecord = 268435456 := by decide
  unfold llFrame llFrameG
  refine safe_guard fun hbig => safe_guard fun hchk => ?_
  have hchk' : off ≤ f.length ∧ size ≤ f.length - off :=
    ⟨Nat.le_of_not_gt fun h => hchk ⟨rfl, .inl h⟩, Nat.le_of_not_gt fun h => hchk ⟨rfl, .inr h⟩⟩
  refine safe_make_then (by omega) (by unfold goMaxAlloc; omega) (safe_guard fun _ => safe_read fun record hrd => ?_)
  have hrl := readAt_length hrd
  refine safe_uvarint fun pl n hu => safe_guard fun hcond => ?_
  obtain ⟨hv, hn0, hnl⟩ := goUvarint_lt hu
  refine safe_assert ?_ (safe_step oasFromBytes_safe.p (by omega) fun _ _ => safe_ok trivial)
  rw [List.length_drop]
  -- n + pl < 2^64 + 10, so the sum either did not wrap (then pl = size - n ≥ 9) or wrapped to less than n ≤ size
  have h64 : (2:Nat) ^ 64 = 18446744073709551616 := by decide
  by_cases hw : n + pl < 2 ^ 64
  · rw [Nat.mod_eq_of_lt hw] at hcond; omega
  · have : (n + pl) % 2 ^ 64 = n + pl - 2 ^ 64 := by
      rw [Nat.mod_eq_sub_mod (by omega), Nat.mod_eq_of_lt (by omega)]
    omega

theorem llRead_safe {f : Bytes} {off : Nat} : Safe (f.length + 10) (llRead f off) := by
  apply SafeP.safe
  unfold llRead
  refine safe_alloc_then (by omega) (safe_guard fun _ => safe_read fun lb _ => ?_)
  exact safe_uvarint fun _ _ _ => llFrame_safe.p

/-- one field of an entry: `uvarintReader.ReadUvarint` -/
inductive Rd (α : Type) where
  | eof
  | bad
  | got (a : α) (rest : Bytes)

def rdUvarint (bs : Bytes) : Rd Nat :=
  if bs.isEmpty then .eof else
  match goUvarint bs 0 with
  | none => .bad
  | some (v, n) => .got v (bs.drop n)

structure Entry3 where
  offset : Nat
  size : Nat
  slot : Nat
  flags : Nat
  deriving Repr

/-- `OffsetAndSizeAndSlot.FromReader`: three uvarints and a flag byte -/
def rdEntry (bs : Bytes) : Rd Entry3 :=
  match rdUvarint bs with
  | .eof => .eof
  | .bad => .bad
  | .got o r1 =>
    match rdUvarint r1 with
    | .eof => .eof
    | .bad => .bad
    | .got sz r2 =>
      match rdUvarint r2 with
      | .eof => .eof
      | .bad => .bad
      | .got sl r3 =>
        match r3 with
        | [] => .eof
        | fl :: r4 => .got ⟨o, sz, sl, fl.toNat⟩ r4

theorem rdUvarint_rest {bs : Bytes} {v : Nat} {r : Bytes} (h : rdUvarint bs = .got v r) : r.length < bs.length := by
  unfold rdUvarint at h
  split at h; · cases h
  split at h; · cases h
  rename_i v' n hu
  cases h
  obtain ⟨_, h0, hl⟩ := goUvarint_lt hu
  simp [List.length_drop]; omega

theorem rdEntry_rest {bs : Bytes} {e : Entry3} {r : Bytes} (h : rdEntry bs = .got e r) : r.length + 4 ≤ bs.length := by
  unfold rdEntry at h
  split at h; · cases h
  · cases h
  rename_i o r1 h1
  split at h; · cases h
  · cases h
  rename_i sz r2 h2
  split at h; · cases h
  · cases h
  rename_i sl r3 h3
  split at h; · cases h
  rename_i fl r4
  cases h
  have := rdUvarint_rest h1
  have := rdUvarint_rest h2
  have := rdUvarint_rest h3
  simp at *
  omega

/-- size of a Go `OffsetAndSizeAndSlot` -/
def entry3Size : Nat := 32

/-- `OffsetAndSizeAndSlotSliceFromBytes`: entries until the reader reports EOF — also in the middle of an entry,
    which is then dropped without an error —; any other decoding error fails the call.  `k` = entries so far
    (`append` at most doubles the slice). -/
def entryLoop (k : Nat) (bs : Bytes) : Res (List Entry3) :=
  match h : rdEntry bs with
  | .eof => ok []
  | .bad => fail "failed to parse offset and size"
  | .got e rest =>
    have : rest.length < bs.length := by have := rdEntry_rest h; omega
    Res.bind (alloc (2 * entry3Size * (k + 1))) fun _ =>
    Res.bind (entryLoop (k + 1) rest) fun r => ok (e :: r)
termination_by bs.length

def entriesFromBytes (bs : Bytes) : Res (List Entry3) := entryLoop 0 bs

theorem entryLoop_safe : ∀ (d : Nat) (k : Nat) (bs : Bytes), bs.length ≤ d →
    Safe (2 * entry3Size * (k + bs.length + 1)) (entryLoop k bs) := by
  intro d
  induction d with
  | zero =>
    intro k bs hd
    unfold entryLoop
    apply SafeP.safe
    split
    · exact safe_ok trivial
    · exact safe_fail
    · rename_i e rest h
      have := rdEntry_rest h
      omega
  | succ d ih =>
    intro k bs hd
    unfold entryLoop
    apply SafeP.safe
    split
    · exact safe_ok trivial
    · exact safe_fail
    · rename_i e rest h
      have hr := rdEntry_rest h
      refine safe_alloc_then (by unfold entry3Size; omega) ?_
      exact safe_step (ih (k + 1) rest (by omega)).p (by unfold entry3Size; omega) fun _ _ => safe_ok trivial

theorem entriesFromBytes_safe {bs : Bytes} : Safe (64 * bs.length + 64) (entriesFromBytes bs) :=
  safe_mono (entryLoop_safe bs.length 0 bs (Nat.le_refl _)) (by unfold entry3Size; omega)

/-- `OffsetAndSizeAndSlot.FromBytes` (a single entry): at most 30 bytes, three uvarints, then `buf[0]` guarded by a
    length check -/
def entryFromBytes (buf : Bytes) : Res Entry3 :=
  if buf.length > 30 then fail "invalid byte slice length" else
  match goUvarint buf 0 with
  | none => fail "failed to parse offset"
  | some (o, n1) =>
    match goUvarint (buf.drop n1) 0 with
    | none => fail "failed to parse size"
    | some (sz, n2) =>
      match goUvarint ((buf.drop n1).drop n2) 0 with
      | none => fail "failed to parse slot"
      | some (sl, n3) =>
        let r := ((buf.drop n1).drop n2).drop n3
        if r.length = 0 then fail "missing flags" else
        match r[0]? with
        | some fl => ok ⟨o, sz, sl, fl.toNat⟩
        | none => crash "index out of range [0]"

theorem entryFromBytes_safe {buf : Bytes} : Safe 0 (entryFromBytes buf) := by
  apply SafeP.safe
  unfold entryFromBytes
  refine safe_guard fun _ => safe_uvarint fun _ n1 _ => safe_uvarint fun _ n2 _ => safe_uvarint fun _ n3 _ => ?_
  refine safe_guard fun hr => ?_
  rw [List.getElem?_eq_getElem (Nat.pos_of_ne_zero hr)]
  exact safe_ok trivial

/-- `ReadWithSize` end to end, zstd as a parameter (`none` = the decoder rejects the payload) -/
def llReadWithSize (z : Bytes → Option Bytes) (f : Bytes) (off size : Nat) : Res (List Entry3 × (Nat × Nat)) := do
  let (payload, next) ← llFrame f off size
  match z payload with
  | none => fail "error while decompressing indexes"
  | some raw => do
    let es ← entriesFromBytes raw
    ok (es, next)

/-! ## gsfa manifest: `NewManifest` on an existing file (`readHeader`, version and size checks), `ReadAll` -/

/-- "gsfamnfs" -/
def mfMagic : Bytes := [103, 115, 102, 97, 109, 110, 102, 115]
def mfVersion : Nat := 5

/-- `readHeader` for version ≥ 2: the metadata through a `bufio.Reader`, then `len(meta.Bytes())` -/
def mfMetaBytes (f : Bytes) (version : Nat) : Res Nat :=
  if version ≥ 2 then do
    alloc bufioSize
    let (kvs, _) ← metaDecode (f.drop 16)
    alloc (metaByteSize kvs)          -- `meta.Bytes()`
    ok (metaByteSize kvs)
  else ok 0

/-- `NewManifest(file, _)` + `ReadAll()`: number of (key, value) tuples; an empty file is a fresh manifest -/
def mfOpen (f : Bytes) : Res Nat :=
  if f.length = 0 then ok 0 else do
  alloc 8
  if f.length < 8 then fail "EOF" else
  if f.take 8 ≠ mfMagic then fail "this is not a gsfa manifest file" else do
  alloc 8
  if (f.drop 8).length < 8 then fail "EOF" else
  let version := unle ((f.drop 8).take 8)
  Res.bind (mfMetaBytes f version) fun metaBytes =>
  if version ≠ mfVersion then fail "unsupported manifest version" else
  -- `currentFileSize - headerLenWithoutMeta - metaByteSize` is an int64: explicit when it would be negative
  if f.length < 16 + metaBytes then crash "makeslice: cap out of range" else
  let dataSize := f.length - 16 - metaBytes
  if dataSize % 16 ≠ 0 then fail "manifest is corrupt" else do
  alloc 16
  make (dataSize / 16) 16
  ok (dataSize / 16)

/-- constant part of the manifest's allocation bound: the metadata slice and the `bufio.Reader` -/
def mfConst : Nat := metaMaxAlloc + bufioSize

theorem mfConst_val : mfConst = 28576 := by decide

/-- the re-encoded metadata is exactly what was read from the file after the 16 fixed bytes -/
theorem mfMetaBytes_safe {f : Bytes} {v : Nat} :
    SafeP (f.length + mfConst) (fun mb => 16 ≤ f.length → 16 + mb ≤ f.length) (mfMetaBytes f v) := by
  have hdrop : (f.drop 16).length = f.length - 16 := List.length_drop
  have hc := mfConst_val
  have hm := metaMaxAlloc_val
  unfold mfMetaBytes
  refine safe_ite (fun _ => safe_alloc_then (by unfold bufioSize; omega) ?_) fun _ => safe_ok fun h => h
  refine safe_step metaDecode_safe (by omega) fun p hp => ?_
  exact safe_alloc_then (by omega) (safe_ok (by omega))

theorem mfOpen_safe {f : Bytes} (hm : InMemory f) : Safe (f.length + mfConst) (mfOpen f) := by
  apply SafeP.safe
  have hc := mfConst_val
  unfold InMemory at hm
  unfold mfOpen
  refine safe_ite (fun _ => safe_ok trivial) fun _ => safe_alloc_then (by omega) ?_
  refine safe_guard fun _ => safe_guard fun _ => safe_alloc_then (by omega) (safe_guard fun h8 => ?_)
  have h16 : 16 ≤ f.length := by rw [List.length_drop] at h8; omega
  refine safe_bind mfMetaBytes_safe fun mb hmb => safe_guard fun _ => ?_
  have hle := hmb h16
  refine safe_assert (by omega) (safe_guard fun _ => safe_alloc_then (by omega) ?_)
  have hd : (f.length - 16 - mb) / 16 * 16 ≤ f.length - 16 - mb := Nat.div_mul_le_self _ _
  exact safe_make_then (by omega) (by unfold goMaxAlloc; omega) (safe_ok trivial)

end Px
