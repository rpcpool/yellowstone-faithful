namespace Eytz

/-- number of heap indices in the subtree rooted at `k` among 1..n -/
def size (n k : Nat) : Nat :=
  if h : 0 < k ∧ k ≤ n then size n (2*k) + 1 + size n (2*k+1) else 0
termination_by n + 1 - k
decreasing_by all_goals omega

theorem size_pos {n k : Nat} (h : 0 < k ∧ k ≤ n) : size n k = size n (2*k) + 1 + size n (2*k+1) := by
  rw [size, dif_pos h]

theorem size_zero {n k : Nat} (h : ¬ (0 < k ∧ k ≤ n)) : size n k = 0 := by
  rw [size, dif_neg h]

/-- `m` lies in the subtree rooted at `k` (k ≥ 1) -/
def inSubB (k m : Nat) : Bool :=
  if m < k then false else if m = k then true else inSubB k (m/2)
termination_by m
decreasing_by omega

abbrev inSub (k m : Nat) : Prop := inSubB k m = true

theorem inSub_self (k : Nat) : inSub k k := by
  unfold inSub inSubB; simp

theorem inSub_ge {k m : Nat} (h : inSub k m) : k ≤ m := by
  unfold inSub inSubB at h
  by_cases h1 : m < k
  · simp [h1] at h
  · omega

theorem inSub_step {k m : Nat} (hk : k < m) : inSub k m ↔ inSub k (m/2) := by
  unfold inSub
  conv => lhs; unfold inSubB
  have h1 : ¬ m < k := by omega
  have h2 : ¬ m = k := by omega
  simp [h1, h2]

theorem inSub_parent {j m : Nat} (hj : 2 ≤ j) (h : inSub j m) : inSub (j/2) m := by
  induction m using Nat.strongRecOn with
  | _ m ih =>
    have hge := inSub_ge h
    rw [inSub_step (by omega)]
    by_cases h2 : m = j
    · subst h2; exact inSub_self _
    · rw [inSub_step (by omega)] at h
      exact ih (m/2) (by omega) h

theorem inSub_left {k m : Nat} (hk : 0 < k) (h : inSub (2*k) m) : inSub k m := by
  have := inSub_parent (by omega) h
  rwa [show 2*k/2 = k by omega] at this

theorem inSub_right {k m : Nat} (hk : 0 < k) (h : inSub (2*k+1) m) : inSub k m := by
  have := inSub_parent (by omega) h
  rwa [show (2*k+1)/2 = k by omega] at this

theorem inSub_disjoint {k m : Nat} (hk : 0 < k) (h1 : inSub (2*k) m) (h2 : inSub (2*k+1) m) : False := by
  induction m using Nat.strongRecOn with
  | _ m ih =>
    have hge := inSub_ge h2
    by_cases e : m = 2*k+1
    · subst e
      rw [inSub_step (by omega)] at h1
      have : (2*k+1)/2 = k := by omega
      rw [this] at h1
      have := inSub_ge h1
      omega
    · rw [inSub_step (by omega)] at h1 h2
      exact ih (m/2) (by omega) h1 h2

theorem inSub_cases {k m : Nat} (hk : 0 < k) (h : inSub k m) : m = k ∨ inSub (2*k) m ∨ inSub (2*k+1) m := by
  induction m using Nat.strongRecOn with
  | _ m ih =>
    have hge := inSub_ge h
    by_cases e : m = k
    · exact Or.inl e
    · right
      rw [inSub_step (by omega)] at h
      rcases ih (m/2) (by omega) h with h' | h' | h'
      · -- m/2 = k
        by_cases par : m = 2*k
        · left; rw [par]; exact inSub_self _
        · right
          have : m = 2*k+1 := by omega
          rw [this]; exact inSub_self _
      · left
        have := inSub_ge h'
        rw [inSub_step (by omega)]; exact h'
      · right
        have := inSub_ge h'
        rw [inSub_step (by omega)]; exact h'

theorem inSubB_split {k : Nat} (hk : 0 < k) (m : Nat) :
    inSubB k m = (m == k || (inSubB (2*k) m || inSubB (2*k+1) m)) := by
  rw [Bool.eq_iff_iff]
  simp only [Bool.or_eq_true, beq_iff_eq]
  constructor
  · exact inSub_cases hk
  · intro h
    rcases h with rfl | h | h
    · exact inSub_self _
    · exact inSub_left hk h
    · exact inSub_right hk h

end Eytz
