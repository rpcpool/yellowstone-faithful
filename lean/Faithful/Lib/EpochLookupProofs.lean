import Faithful.Lib.EpochLookup

/-! Helper lemmas for Faithful/Properties/C03.lean: inversion of the small steps of `EpochLookup`
(`fetchFound`, `asBlock`, `checkSlot`, `asTx`, `checkSig`), `takeWhile` facts, and the fold over epochs of `gsfaAll`. -/
namespace EpochLookup
open B CI Car IndexAll

theorem fetchFound_ok (fetch : Bytes → Got) (found : Look) (n : Node) (h : fetchFound fetch found = .ok n) :
    found = .found n.cid ∧ fetch n.cid = .ok n.data := by
  unfold fetchFound at h
  split at h
  · rename_i c
    split at h
    · rename_i d hd
      cases h
      exact ⟨rfl, hd⟩
    · cases h
    · cases h
  · cases h
  · cases h

theorem asBlock_ok (info : Bytes → Info) (r : Ans Node) (n : Node) (slot : Nat) (h : asBlock info r = .ok (n, slot)) :
    r = .ok n ∧ ∃ bt, info n.data = .block slot bt := by
  unfold asBlock at h
  split at h
  · rename_i n'
    split at h
    · rename_i slot' bt hi
      cases h
      exact ⟨rfl, bt, hi⟩
    · cases h
  · cases h
  · cases h
  · cases h

theorem checkSlot_ok (s : Nat) (r : Ans (Node × Nat)) (n : Node) (slot : Nat) (h : checkSlot s r = .ok (n, slot)) :
    r = .ok (n, slot) ∧ slot = s := by
  unfold checkSlot at h
  split at h
  · rename_i n' slot'
    split at h
    · rename_i hs
      cases h
      exact ⟨rfl, hs⟩
    · cases h
  · rename_i hne
    exact absurd h (by intro h'; exact hne n slot h')

theorem asTx_ok (info : Bytes → Info) (r : Ans Node) (n : Node) (sig : Bytes) (h : asTx info r = .ok (n, sig)) :
    r = .ok n ∧ info n.data = .tx sig := by
  unfold asTx at h
  split at h
  · rename_i n'
    split at h
    · rename_i sig' hi
      cases h
      exact ⟨rfl, hi⟩
    · cases h
  · cases h
  · cases h
  · cases h

theorem checkSig_ok (g : Bytes) (r : Ans (Node × Bytes)) (n : Node) (sig : Bytes) (h : checkSig g r = .ok (n, sig)) :
    r = .ok (n, sig) ∧ sig = g := by
  unfold checkSig at h
  split at h
  · rename_i n' sig'
    split at h
    · rename_i hs
      cases h
      exact ⟨rfl, hs⟩
    · cases h
  · rename_i hne
    exact absurd h (by intro h'; exact hne n sig h')

theorem mem_takeWhile_true {α : Type} (p : α → Bool) (t : α) : ∀ (l : List α), t ∈ l.takeWhile p → p t = true
  | [], h => by cases h
  | x :: r, h => by
    by_cases hx : p x = true
    · simp only [List.takeWhile, hx, List.mem_cons] at h
      rcases h with rfl | h
      · exact hx
      · exact mem_takeWhile_true p t r h
    · simp [List.takeWhile, hx] at h

theorem gsfaAll_all (P : Tx → Prop) (one : AddrIndex → Ans (List Tx))
    (hone : ∀ g l, one g = .ok l → ∀ t ∈ l, P t) :
    ∀ (gs : List AddrIndex) (l : List Tx), gsfaAll one gs = .ok l → ∀ t ∈ l, P t
  | [], l, h => by
    simp only [gsfaAll, Ans.ok.injEq] at h; subst h; intro t ht; cases ht
  | g :: rest, l, h => by
    unfold gsfaAll at h
    split at h
    · rename_i l1 h1
      split at h
      · rename_i r hr
        cases h
        intro t ht
        rcases List.mem_append.mp ht with ht | ht
        · exact hone g l1 h1 t ht
        · exact gsfaAll_all P one hone rest r hr t ht
      · rename_i hne
        exact absurd h (by intro h'; exact hne l h')
    · cases h
    · cases h
    · cases h

theorem gsfaAll_singleton (one : AddrIndex → Ans (List Tx)) (g : AddrIndex) (l : List Tx) (h : one g = .ok l) :
    gsfaAll one [g] = .ok l := by
  rw [gsfaAll, h, gsfaAll]
  exact congrArg Ans.ok (List.append_nil l)

theorem takeWhile_nil_of_all_false {α : Type} (p : α → Bool) : ∀ (l : List α), (∀ t ∈ l, p t = false) → l.takeWhile p = []
  | [], _ => rfl
  | x :: r, h => by simp [List.takeWhile, h x (List.mem_cons_self ..)]

theorem gsfaAll_nil (one : AddrIndex → Ans (List Tx)) :
    ∀ (gs : List AddrIndex), (∀ g ∈ gs, ∀ l, one g = .ok l → l = []) → ∀ l, gsfaAll one gs = .ok l → l = []
  | [], _, l, h => by simp only [gsfaAll, Ans.ok.injEq] at h; exact h.symm
  | g :: rest, hall, l, h => by
    unfold gsfaAll at h
    split at h
    · rename_i l1 h1
      split at h
      · rename_i r hr
        cases h
        have e1 := hall g (List.mem_cons_self ..) l1 h1
        have e2 := gsfaAll_nil one rest (fun g' hg' => hall g' (List.mem_cons_of_mem _ hg')) r hr
        simp [e1, e2]
      · rename_i hne
        exact absurd h (by intro h'; exact hne l h')
    · cases h
    · cases h
    · cases h

theorem takeWhile_all {α : Type} (p : α → Bool) : ∀ (l : List α), (∀ t ∈ l, p t = true) → l.takeWhile p = l
  | [], _ => rfl
  | x :: r, h => by
    simp only [List.takeWhile, h x (List.mem_cons_self ..)]
    rw [takeWhile_all p r (fun t ht => h t (List.mem_cons_of_mem _ ht))]

theorem cutUpto_subset (upto : Option Bytes) : ∀ (l : List Tx) (t : Tx), t ∈ cutUpto upto l → t ∈ l
  | [], _, h => by simp [cutUpto] at h
  | x :: r, t, h => by
    unfold cutUpto at h
    cases upto with
    | none => exact h
    | some u =>
      simp only at h
      split at h
      · simp only [List.mem_cons, List.mem_nil_iff, or_false] at h
        subst h; exact List.mem_cons_self ..
      · rcases List.mem_cons.mp h with rfl | h
        · exact List.mem_cons_self ..
        · exact List.mem_cons_of_mem _ (cutUpto_subset (some u) r t h)

theorem dropBefore_subset (before : Option Bytes) (l : List Tx) (t : Tx) (h : t ∈ dropBefore before l) : t ∈ l := by
  unfold dropBefore at h
  cases before with
  | none => exact h
  | some b =>
    simp only at h
    exact (List.dropWhile_sublist _).subset ((List.drop_sublist 1 _).subset h)

theorem page_subset (limit : Nat) (before upto : Option Bytes) (l : List Tx) (t : Tx) (h : t ∈ page limit before upto l) : t ∈ l := by
  unfold page at h
  exact dropBefore_subset before l t (List.mem_of_mem_take (cutUpto_subset upto _ t h))

theorem page_default (l : List Tx) (limit : Nat) : page limit none none l = l.take limit := by
  unfold page dropBefore
  cases h : l.take limit with
  | nil => rfl
  | cons x r => simp [cutUpto]

end EpochLookup
