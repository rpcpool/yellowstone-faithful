import Faithful.Lib.EytzFill
namespace Eytz

variable {β : Type} [Inhabited β]

/-- Go `searchEytzinger(min=0, max=a.size, x, getter)` with the loop unrolled by fuel. -/
def search (a : Array (Nat × β)) (x : Nat) : Nat → Nat → Option β
  | 0, _ => none
  | fuel+1, index =>
    if index < a.size then
      let e := a.getD index default
      if e.1 = x then some e.2
      else search a x fuel (if e.1 < x then 2*index+2 else 2*index+1)
    else none

theorem rank_range (n : Nat) (m : Nat) (k : Nat) : ∀ (i : Nat) (hk : 0 < k) (hm : inSub k m) (hmn : m ≤ n),
    i ≤ rank n k i m ∧ rank n k i m < i + size n k := by
  induction k using size.induct (n := n) with
  | case1 k h ih1 ih2 =>
    intro i hk hm hmn
    rw [size_pos h]
    rcases inSub_cases hk hm with e | e | e
    · subst e; rw [rank_root h]; omega
    · have := ih1 i (by omega) e hmn
      rw [rank_left h e]
      omega
    · have := ih2 (i + size n (2*k) + 1) (by omega) e hmn
      rw [rank_right h e]
      omega
  | case2 k h =>
    intro i hk hm hmn
    exact absurd ⟨hk, Nat.le_trans (inSub_ge hm) hmn⟩ h

/-- the root of subtree `k` holds the element of rank `size n (2k)` of its sorted run, smaller keys lie in the left
    subtree, larger ones in the right -/
theorem search_found (inp a : Array (Nat × β)) (n : Nat) (hsz : a.size = n)
    (hsorted : ∀ p q, p < q → q < inp.size → (inp.getD p default).1 < (inp.getD q default).1)
    (k : Nat) : ∀ (i : Nat) (hk : 0 < k)
    (hlay : ∀ m, inSub k m → m ≤ n → a.getD (m-1) default = inp.getD (rank n k i m) default)
    (hfit : i + size n k ≤ inp.size)
    (j : Nat) (hj1 : i ≤ j) (hj2 : j < i + size n k) (fuel : Nat) (hfuel : n + 1 - k ≤ fuel),
    search a (inp.getD j default).1 fuel (k-1) = some (inp.getD j default).2 := by
  induction k using size.induct (n := n) with
  | case1 k h ih1 ih2 =>
    intro i hk hlay hfit j hj1 hj2 fuel hfuel
    obtain ⟨fuel, rfl⟩ : ∃ f, fuel = f + 1 := ⟨fuel - 1, by omega⟩
    have hroot : a.getD (k-1) default = inp.getD (i + size n (2*k)) default := by
      rw [hlay k (inSub_self k) h.2, rank_root h]
    have hL : ∀ m, inSub (2*k) m → m ≤ n → a.getD (m-1) default = inp.getD (rank n (2*k) i m) default := by
      intro m hm hmn
      rw [hlay m (inSub_left hk hm) hmn, rank_left h hm]
    have hR : ∀ m, inSub (2*k+1) m → m ≤ n →
        a.getD (m-1) default = inp.getD (rank n (2*k+1) (i + size n (2*k) + 1) m) default := by
      intro m hm hmn
      rw [hlay m (inSub_right hk hm) hmn, rank_right h hm]
    have ih1 := ih1 i (Nat.mul_pos Nat.two_pos hk) hL
    have ih2 := ih2 (i + size n (2*k) + 1) (Nat.succ_pos _) hR
    rw [size_pos h] at hfit hj2
    -- the sizes of the two subtrees as plain variables: `omega` must not see the well-founded `size`
    generalize size n (2*k) = s1 at *
    generalize size n (2*k+1) = s2 at *
    rw [search, if_pos (by omega), hroot]
    rcases Nat.lt_trichotomy j (i + s1) with hlt | rfl | hgt
    · have hkey := hsorted j (i + s1) hlt (by omega)
      rw [if_neg (Nat.ne_of_gt hkey), if_neg (Nat.lt_asymm hkey), show 2*(k-1)+1 = 2*k - 1 by omega]
      exact ih1 (by omega) j hj1 hlt fuel (by omega)
    · rw [if_pos rfl]
    · have hkey := hsorted (i + s1) j hgt (by omega)
      rw [if_neg (Nat.ne_of_lt hkey), if_pos hkey, show 2*(k-1)+2 = 2*k+1 - 1 by omega]
      exact ih2 (by omega) j (by omega) (by omega) fuel (by omega)
  | case2 k h =>
    intro i _ _ _ j _ hj2 _ _
    rw [size_zero h] at hj2
    omega

theorem search_sound (a : Array (Nat × β)) (x : Nat) (fuel idx : Nat) (v : β)
    (h : search a x fuel idx = some v) : ∃ j, j < a.size ∧ a.getD j default = (x, v) := by
  induction fuel generalizing idx with
  | zero => simp [search] at h
  | succ f ih =>
    rw [search] at h
    by_cases hi : idx < a.size
    · simp only [hi, if_true] at h
      by_cases he : (a.getD idx default).1 = x
      · simp only [he, if_true] at h
        refine ⟨idx, hi, ?_⟩
        cases hh : a.getD idx default with
        | mk p q => rw [hh] at he h; simp at he h; rw [he, h]
      · simp only [he, if_false] at h
        exact ih _ h
    · simp [hi] at h

end Eytz
