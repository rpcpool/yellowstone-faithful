import Faithful.Lib.EytzBasic
namespace Eytz

variable {α : Type} [Inhabited α]

/-- Go `eytzinger(in, out, i, k)`; out-of-range writes cannot happen for k ≤ n = out.size. -/
def fill (inp : Array α) (n : Nat) (k : Nat) (i : Nat) (out : Array α) : Nat × Array α :=
  if h : 0 < k ∧ k ≤ n then
    fill inp n (2*k+1) ((fill inp n (2*k) i out).1 + 1)
      ((fill inp n (2*k) i out).2.setIfInBounds (k-1) (inp.getD (fill inp n (2*k) i out).1 default))
  else (i, out)
termination_by n + 1 - k
decreasing_by all_goals omega

/-- in-order rank (as an index into `inp`) of heap node `m` inside the subtree `k` started at `i` -/
def rank (n k i m : Nat) : Nat :=
  if h : 0 < k ∧ k ≤ n then
    if m = k then i + size n (2*k)
    else if inSubB (2*k) m then rank n (2*k) i m
    else rank n (2*k+1) (i + size n (2*k) + 1) m
  else 0
termination_by n + 1 - k
decreasing_by all_goals omega

theorem rank_root {n k i : Nat} (h : 0 < k ∧ k ≤ n) : rank n k i k = i + size n (2*k) := by
  rw [rank, dif_pos h, if_pos rfl]

theorem rank_left {n k i m : Nat} (h : 0 < k ∧ k ≤ n) (hL : inSub (2*k) m) : rank n k i m = rank n (2*k) i m := by
  rw [rank, dif_pos h, if_neg (by have := inSub_ge hL; omega), if_pos hL]

theorem rank_right {n k i m : Nat} (h : 0 < k ∧ k ≤ n) (hR : inSub (2*k+1) m) :
    rank n k i m = rank n (2*k+1) (i + size n (2*k) + 1) m := by
  rw [rank, dif_pos h, if_neg (by have := inSub_ge hR; omega), if_neg (fun hL => inSub_disjoint h.1 hL hR)]

theorem getD_setIfInBounds_eq (a : Array α) (j : Nat) (v d : α) (h : j < a.size) :
    (a.setIfInBounds j v).getD j d = v := by
  simp [Array.getD, h]

theorem getD_setIfInBounds_ne (a : Array α) (j l : Nat) (v d : α) (h : j ≠ l) :
    (a.setIfInBounds j v).getD l d = a.getD l d := by
  by_cases hl : l < a.size
  · simp [Array.getD, hl, h]
  · simp [Array.getD, hl]

theorem fill_spec (inp : Array α) (n : Nat) (k i : Nat) (out : Array α) (hk : 0 < k) (hsz : out.size = n) :
    (fill inp n k i out).1 = i + size n k ∧
    (fill inp n k i out).2.size = n ∧
    ∀ m, 0 < m → m ≤ n →
      (fill inp n k i out).2.getD (m-1) default =
        if inSubB k m then inp.getD (rank n k i m) default else out.getD (m-1) default := by
  induction k, i, out using fill.induct (inp := inp) (n := n) with
  | case1 k i out h ih1 ih2 =>
    obtain ⟨a1, b1, c1⟩ := ih1 (by omega) hsz
    obtain ⟨a2, b2, c2⟩ := ih2 (by omega) (by rw [Array.size_setIfInBounds, b1])
    rw [fill, dif_pos h]
    refine ⟨?_, b2, ?_⟩
    · rw [a2, a1, size_pos h]
      simp only [Nat.add_assoc]
    · intro m hm hmn
      rw [c2 m hm hmn]
      by_cases hR : inSubB (2*k+1) m = true
      · rw [if_pos hR, if_pos (inSub_right hk hR), rank_right h hR, a1]
      · rw [if_neg hR]
        by_cases hmk : m = k
        · subst hmk
          rw [if_pos (inSub_self m), rank_root h, getD_setIfInBounds_eq _ _ _ _ (by omega), a1]
        · rw [getD_setIfInBounds_ne _ _ _ _ _ (by omega), c1 m hm hmn]
          by_cases hL : inSubB (2*k) m = true
          · rw [if_pos hL, if_pos (inSub_left hk hL), rank_left h hL]
          · rw [if_neg hL, if_neg]
            intro hkm
            rcases inSub_cases hk hkm with e | e | e
            · exact hmk e
            · exact hL e
            · exact hR e
  | case2 k i out h =>
    rw [fill, dif_neg h, size_zero h]
    refine ⟨rfl, hsz, fun m _ hmn => ?_⟩
    rw [if_neg]
    intro hkm
    exact h ⟨hk, Nat.le_trans (inSub_ge hkm) hmn⟩

end Eytz
