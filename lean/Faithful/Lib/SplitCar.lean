import Faithful.Lib.Multi
import Faithful.Lib.Bytes
import Faithful.Lib.Varint

/-!
# C16 — split-CAR reader and splitter (model)

* `SplitCar.readAt` — `MultiReaderAt.ReadAt` of /repo/split-car-fetcher/fetcher.go with the *explicit size
  table* given to `NewMultiReaderAt` (a reader may hold fewer or more bytes than its declared size) and a
  signed offset, i.e. exactly the inputs the Go function accepts.  `Multi.readAt` (design round) is the
  special case "every declared size is the reader's length"; `goS_eq_go` ties the two.
* `SplitCar.newReader` / `SplitCar.Reader.readAt` — `NewSplitCarReader` / `SplitCarReader.ReadAt`.
* `SplitCar.split` — the rollover rule of `split-car` (cmd-car-split.go), polymorphic in the DAG type.
-/

namespace SplitCar
open Multi

/-! ## MultiReaderAt -/

/-- one entry of `MultiReaderAt`: what `readers[i]` holds and `sizes[i]` -/
structure Seg where
  data : Bytes
  size : Nat
deriving Repr, DecidableEq

/-- the reader holds exactly its declared size -/
def Seg.exact (b : Bytes) : Seg := ⟨b, b.length⟩

/-- The loop of `MultiReaderAt.ReadAt`.  `base` = `m.offsets[i]`, `off` = the (mutated) `off`,
    `remaining`, `acc` = `p[:bufOffset]`, `reachedEnd`.  Result = (bytes placed in `p`, err == io.EOF).
    Readers answer like `bytes.Reader` / `io.SectionReader` (`Multi.readSeg`). -/
def goS : List Seg → (base off remaining : Nat) → (acc : Bytes) → (reachedEnd : Bool) → Bytes × Bool
  | [], _, _, remaining, acc, reachedEnd => (acc, decide (0 < remaining) && reachedEnd)
  | seg :: rest, base, off, remaining, acc, reachedEnd =>
    if off < base then goS rest (base + seg.size) off remaining acc reachedEnd   -- `continue`
    else
      let isLast := rest.isEmpty
      -- nextOffset = MaxInt64 for the last entry, offsets[i+1] otherwise; max(0, ·) is Nat subtraction
      let toRead := if isLast then remaining else min (base + seg.size - off) remaining
      let r := readSeg seg.data (off - base) toRead
      let n := r.1.length
      let remaining' := remaining - n
      let reachedEnd' := reachedEnd || (r.2 && isLast)
      let off' := if n = toRead then off + n else off
      if remaining' = 0 then (acc ++ r.1, false)                                  -- `break`, then `return totalN, nil`
      else goS rest (base + seg.size) off' remaining' (acc ++ r.1) reachedEnd'

/-- `MultiReaderAt.ReadAt(p, off)` with `len(p) = len`: a negative offset is smaller than `offsets[0] = 0`,
    so every entry is skipped and the answer is `(0, nil)`. -/
def readAt (segs : List Seg) (off : Int) (len : Nat) : Bytes × Bool :=
  if off < 0 then ([], false) else goS segs 0 off.toNat len [] false

theorem goS_eq_go (l : List Seg) : ∀ (base off remaining : Nat) (acc : Bytes) (e : Bool),
    (∀ s ∈ l, s.data.length = s.size) →
    goS l base off remaining acc e = go (l.map Seg.data) base off remaining acc e := by
  induction l with
  | nil => intros; simp [goS, go]
  | cons s rest ih =>
    intro base off remaining acc e h
    have hs : s.data.length = s.size := h s (List.mem_cons_self ..)
    have hr : ∀ t ∈ rest, t.data.length = t.size := fun t ht => h t (List.mem_cons_of_mem _ ht)
    have hemp : (rest.map Seg.data).isEmpty = rest.isEmpty := by cases rest <;> rfl
    have ih' : ∀ b o r a e, goS rest b o r a e = go (rest.map Seg.data) b o r a e :=
      fun b o r a e => ih b o r a e hr
    simp only [goS, go, List.map_cons, hemp, hs, ih']

theorem map_exact_data (segs : List Bytes) : (segs.map Seg.exact).map Seg.data = segs := by
  induction segs with
  | nil => rfl
  | cons s r ih => simp [Seg.exact, ih]

theorem readAt_exact (segs : List Bytes) (off len : Nat) :
    readAt (segs.map Seg.exact) (off : Int) len = Multi.readAt segs off len := by
  have hneg : ¬ ((off : Int) < 0) := by omega
  unfold readAt Multi.readAt
  simp only [hneg, if_false, Int.toNat_natCast]
  rw [goS_eq_go _ _ _ _ _ _ (by intro s hs; simp [Seg.exact] at hs; obtain ⟨b, _, rfl⟩ := hs; rfl)]
  rw [map_exact_data]

/-- no segment at all: the loop body never runs -/
theorem readAt_nil (off : Int) (len : Nat) : readAt [] off len = ([], false) := by
  unfold readAt; split <;> simp [goS]

/-- zero-length read: the first entry (offset 0 ≤ off) is asked for 0 bytes, `remaining == 0` breaks -/
theorem goS_len_zero (segs : List Seg) (off : Nat) : goS segs 0 off 0 [] false = ([], false) := by
  cases segs with
  | nil => simp [goS]
  | cons s rest =>
    have hr : (readSeg s.data off 0).1 = [] := by unfold readSeg; split <;> simp
    cases hre : rest.isEmpty <;> simp [goS, hre, hr]

theorem readAt_len_zero (segs : List Seg) (off : Int) : readAt segs off 0 = ([], false) := by
  unfold readAt; split
  · rfl
  · exact goS_len_zero segs _

theorem readAt_neg (segs : List Seg) (off : Int) (len : Nat) (h : off < 0) : readAt segs off len = ([], false) := by
  unfold readAt; simp [h]

/-- Total specification when every reader holds its declared size: the bytes are always the requested
    window of the concatenation; io.EOF is returned exactly when there is at least one segment and the
    window is shorter than requested. -/
theorem readAt_total (segs : List Bytes) (off len : Nat) :
    (readAt (segs.map Seg.exact) (off : Int) len).1 = want segs off len ∧
    ((readAt (segs.map Seg.exact) (off : Int) len).2 = true ↔ segs ≠ [] ∧ (want segs off len).length < len) := by
  by_cases hne : segs = []
  · subst hne
    simp [readAt_nil, want]
  · by_cases hl : len = 0
    · subst hl
      rw [readAt_len_zero]
      simp [want]
    · rw [readAt_exact]
      have := Multi.readAt_spec segs off len hne (by omega)
      exact ⟨this.1, by rw [this.2]; simp [hne]⟩

theorem want_length (segs : List Bytes) (off len : Nat) :
    (want segs off len).length = min len (segs.flatten.length - off) := by
  unfold want; simp [List.length_take, List.length_drop]

/-! ## SplitCarReader -/

/-- which Go type the `SplitCarFileReaderCreator` returned: `*FileSplitCarReader` (size must equal
    HeaderSize+ContentSize) or any other `ReaderAtCloserSize` that is not the HTTP reader (no size check).
    The HTTP reader (`size ≥ HeaderSize+ContentSize`, io.ErrUnexpectedEOF on short reads) is not modelled. -/
inductive RKind | file | mem
deriving Repr, DecidableEq

structure PieceIn where
  kind : RKind
  headerSize : Nat      -- carlet.CarFile.HeaderSize
  contentSize : Nat     -- carlet.CarFile.ContentSize
  file : Bytes          -- what the reader holds
deriving Repr

structure Meta where
  header : Bytes        -- base64-decoded OriginalCarHeader
  headerSize : Nat      -- OriginalCarHeaderSize

/-- `originalCarHeader`: uvarint(len) ‖ header, refused unless its length is the recorded one -/
def origHeader (md : Meta) : Option Bytes :=
  let h := Varint.put md.header.length ++ md.header
  if h.length = md.headerSize then some h else none

/-- a concrete header (used by the non-vacuity examples; `Varint.put` is well-founded, `decide` cannot unfold it) -/
theorem origHeader_a0 (n : Nat) : origHeader ⟨[0xa0], n⟩ = if 2 = n then some [1, 0xa0] else none := by
  unfold origHeader; rw [Varint.put]; simp

/-- `io.NewSectionReader(fi, HeaderSize, ContentSize)` over an in-memory / regular file: as a reader it is
    indistinguishable from a `bytes.Reader` over this slice (see DESIGN and the harness `msegs` cases) -/
def content (p : PieceIn) : Bytes := B.slice p.file p.headerSize p.contentSize

inductive NewErr | header | pieceSize (i : Nat)
deriving Repr, DecidableEq

def checkPieces : List PieceIn → Nat → Option NewErr
  | [], _ => none
  | p :: rest, i =>
    if p.kind = RKind.file ∧ p.file.length ≠ p.headerSize + p.contentSize then some (.pieceSize i)
    else checkPieces rest (i + 1)

structure Reader where
  segs : List Seg

/-- `NewSplitCarReader` -/
def newReader (md : Meta) (pieces : List PieceIn) : Except NewErr Reader :=
  match origHeader md with
  | none => .error .header
  | some h =>
    match checkPieces pieces 0 with
    | some e => .error e
    | none => .ok ⟨Seg.exact h :: pieces.map fun p => ⟨content p, p.contentSize⟩⟩

def Reader.readAt (r : Reader) (off : Int) (len : Nat) : Bytes × Bool := SplitCar.readAt r.segs off len

theorem content_length (p : PieceIn) (h : p.headerSize + p.contentSize ≤ p.file.length) :
    (content p).length = p.contentSize := by
  unfold content B.slice; simp [List.length_take, List.length_drop]; omega

theorem checkPieces_none (pieces : List PieceIn) (i : Nat) :
    checkPieces pieces i = none ↔ ∀ p ∈ pieces, p.kind = RKind.file → p.file.length = p.headerSize + p.contentSize := by
  induction pieces generalizing i with
  | nil => simp [checkPieces]
  | cons p rest ih =>
    simp only [List.mem_cons, forall_eq_or_imp]
    unfold checkPieces
    by_cases hk : p.kind = RKind.file ∧ p.file.length ≠ p.headerSize + p.contentSize
    · rw [if_pos hk]
      constructor
      · intro h; cases h
      · intro h; exact absurd (h.1 hk.1) hk.2
    · rw [if_neg hk, ih]
      constructor
      · intro h; refine ⟨fun hf => ?_, h⟩
        exact Classical.byContradiction fun hne => hk ⟨hf, hne⟩
      · intro h; exact h.2

/-! ## split-car: the rollover rule -/

/-- one written piece: its block DAGs in order and the value of `currentFileSize` when it was closed -/
structure Piece (α : Type) where
  dags : List α
  fileSize : Nat
deriving Repr, DecidableEq

section split
variable {α : Type} (size : α → Nat) (hdr target maxLinks : Nat)

/-- The accumulator callback of `split-car`, one call per block DAG, in CAR order (`cur = none` is
    `currentFile == nil`).  The test `currentFileSize + dagSize > maxFileSize || len(blockLinks) > maxLinks`
    comes *before* the DAG is written, so the DAG that would cross the target opens the next piece;
    `createNewFile` sets `currentFileSize = hdrSize`; `writeObject` adds every section's length. -/
def splitGo : List α → Option (Piece α) → List (Piece α)
  | [], cur => cur.toList
  | d :: rest, none => splitGo rest (some ⟨[d], hdr + size d⟩)
  | d :: rest, some c =>
    if c.fileSize + size d > target ∨ c.dags.length > maxLinks then
      c :: splitGo rest (some ⟨[d], hdr + size d⟩)
    else splitGo rest (some ⟨c.dags ++ [d], c.fileSize + size d⟩)

def split (ds : List α) : List (Piece α) := splitGo size hdr target maxLinks ds none

/-- the command as a whole: with no block at all `writeSubsetNode` writes through a nil `*bufio.Writer`
    and the process panics (`none`) -/
def splitCmd (ds : List α) : Option (List (Piece α)) :=
  if ds.isEmpty then none else some (split size hdr target maxLinks ds)

/-- `ContentSize: currentFileSize - hdrSize` -/
def Piece.contentSize (p : Piece α) : Nat := p.fileSize - hdr

def dagSum (l : List α) : Nat := (l.map size).sum

/-- invariant carried by the current piece -/
def Piece.Good (p : Piece α) : Prop := p.dags ≠ [] ∧ p.fileSize = hdr + dagSum size p.dags

theorem dagSum_append (a b : List α) : dagSum size (a ++ b) = dagSum size a + dagSum size b := by
  simp [dagSum]

theorem splitGo_partition (ds : List α) : ∀ cur : Option (Piece α),
    (splitGo size hdr target maxLinks ds cur).flatMap Piece.dags = (cur.toList.flatMap Piece.dags) ++ ds := by
  induction ds with
  | nil => intro cur; simp [splitGo]
  | cons d rest ih =>
    intro cur
    cases cur with
    | none => simp [splitGo, ih]
    | some c =>
      simp only [splitGo]
      split
      · simp [ih]
      · simp [ih]

theorem splitGo_inv (P : Piece α → Prop) (hnew : ∀ d, P ⟨[d], hdr + size d⟩)
    (hadd : ∀ c d, P c → ¬ (c.fileSize + size d > target ∨ c.dags.length > maxLinks) → P ⟨c.dags ++ [d], c.fileSize + size d⟩)
    (ds : List α) : ∀ cur : Option (Piece α), (∀ c, cur = some c → P c) →
    ∀ p ∈ splitGo size hdr target maxLinks ds cur, P p := by
  induction ds with
  | nil =>
    intro cur hc p hp
    cases cur with
    | none => cases hp
    | some c => rw [List.mem_singleton.mp hp]; exact hc c rfl
  | cons d rest ih =>
    intro cur hc p hp
    have hone : ∀ c, some (⟨[d], hdr + size d⟩ : Piece α) = some c → P c := fun c hcc => Option.some.inj hcc ▸ hnew d
    cases cur with
    | none => exact ih _ hone p hp
    | some c =>
      rw [splitGo] at hp
      split at hp
      · rcases List.mem_cons.mp hp with h | h
        · rw [h]; exact hc c rfl
        · exact ih _ hone p h
      · rename_i hno
        exact ih _ (fun c' hc' => Option.some.inj hc' ▸ hadd c d (hc c rfl) hno) p hp

theorem splitGo_good (ds : List α) : ∀ cur : Option (Piece α),
    (∀ c, cur = some c → c.Good size hdr) →
    ∀ p ∈ splitGo size hdr target maxLinks ds cur, p.Good size hdr :=
  splitGo_inv size hdr target maxLinks (Piece.Good size hdr) (fun d => ⟨by simp, by simp [dagSum]⟩)
    (fun c d hc _ => ⟨by simp, by simp [hc.2, dagSum]; omega⟩) ds

/-- a piece is closed only because the next DAG did not fit or the link limit was passed; so every piece
    either respects the target or consists of one DAG, unless its predecessor state was over the link limit.
    Stated for the current piece as an invariant: `fits c := c.fileSize ≤ target ∨ c.dags.length = 1`. -/
def Piece.Fits (p : Piece α) : Prop := p.fileSize ≤ target ∨ p.dags.length = 1

theorem splitGo_fits (ds : List α) : ∀ cur : Option (Piece α),
    (∀ c, cur = some c → c.Fits target) →
    ∀ p ∈ splitGo size hdr target maxLinks ds cur, p.Fits target :=
  splitGo_inv size hdr target maxLinks (Piece.Fits target) (fun _ => .inr rfl) (fun _ _ _ hno => .inl (by simp only; omega)) ds

/-- link limit: a piece holds at most `maxLinks + 1` block DAGs -/
theorem splitGo_links (ds : List α) : ∀ cur : Option (Piece α),
    (∀ c, cur = some c → c.dags.length ≤ maxLinks + 1) →
    ∀ p ∈ splitGo size hdr target maxLinks ds cur, p.dags.length ≤ maxLinks + 1 :=
  splitGo_inv size hdr target maxLinks (·.dags.length ≤ maxLinks + 1) (fun _ => by simp)
    (fun _ _ _ hno => by simp only [List.length_append, List.length_cons, List.length_nil]; omega) ds

end split

/-! ## byte-level DAGs and piece files -/

/-- a block DAG as `split-car` sees it: the raw CAR sections of the block's objects followed by the block's -/
structure Dag where
  sections : List Bytes
deriving Repr, DecidableEq

def Dag.bytes (d : Dag) : Bytes := d.sections.flatten
/-- `dagSize` = Σ `RawSectionSize()` = what `writeObject` adds up -/
def Dag.size (d : Dag) : Nat := (d.sections.map List.length).sum

theorem Dag.size_eq (d : Dag) : d.size = d.bytes.length := by
  unfold Dag.size Dag.bytes; simp [List.length_flatten]

def dagBytes (l : List Dag) : Bytes := (l.map Dag.bytes).flatten

theorem dagBytes_length (l : List Dag) : (dagBytes l).length = dagSum Dag.size l := by
  induction l with
  | nil => rfl
  | cons d r ih =>
    have : dagBytes (d :: r) = d.bytes ++ dagBytes r := by simp [dagBytes]
    rw [this, List.length_append, ih]; simp [dagSum, Dag.size_eq]

/-- a piece on disk: CAR header (`hdrSize` bytes; the root is replaced afterwards by a CID of the same
    length), the block DAGs, then whatever is written around `writeObject` (Subset node, Epoch node) -/
def pieceFile (H : Bytes) (p : Piece Dag) (tail : Bytes) : Bytes := H ++ dagBytes p.dags ++ tail

end SplitCar
