import Faithful.Lib.LedgerProofs
import Faithful.Lib.LedgerLimits
import Faithful.Lib.ParsersCbor
/-! Property C11 — the hand-written IPLD node decoders agree with the schema-driven reference decoder.

`Ledger.Fast.decode` is the model of `cbor.go` as pinned (unchecked assertions = `panic` outcomes); the tree now carries
fix 8c63bd7 (those sites return errors), whose model is `Ledger.FastFixed.decode` — the one the driver executes.  The
theorems are proved for the pinned model and transferred to the current one (`current_*`) through the refinement
`FastFixed.ref_decode` (same outcome wherever the pinned model does not panic).
Statements are about the definitions the driver executes (`Ledger.FastFixed.decode`, `Ledger.Ref.decode`,
`Ledger.Ref.encode`, `Ledger.obs` of Faithful/Lib/Ledger.lean), for ALL typed values of the seven kinds that satisfy the
schema's own constraints (`Node.WF`: the kind field carries the kind, Go ints are int64, links are CIDs) — no bound on
list lengths, byte-string lengths or integer magnitudes.  bytes ⇄ CBOR tree is third-party code on both paths and is
outside these statements (compared on every op line of the correspondence run). -/
namespace C11
open Ledger Cbor

/-- **agreement**: a schema-conforming node, encoded by the reference encoder, is accepted by the hand-written decoder
    (never an error, never a panic) and by the schema-driven decoder, and both results carry the observation of the
    original typed value: same kind, field values, optional-field presence (`Has*/Get*`) and links. -/
theorem fast_agrees (n : Node) (wf : n.WF) :
    (∃ n', Fast.decode n.kind (Ref.encode n) = .ok n' ∧ obs n' = obs n) ∧
    (∃ n'', Ref.decode n.kind (Ref.encode n) = .ok n'' ∧ obs n'' = obs n) :=
  ⟨⟨_, fast_decode_encode n wf, obs_fast_norm n⟩, ⟨_, ref_decode_encode n wf, obs_ref_norm n⟩⟩

/-- the byte parser in front of the hand-written decoders (fxamacker/cbor with the element limit 2^31-1 that
    cbor.go sets; 32 nesting levels) accepts the encoding of every typed value whose lists stay within that limit:
    reference encodings have no maps and nest at most 4 deep -/
theorem parser_limits (n : Node) (h : n.maxList ≤ Fast.maxArrayElements) :
    Fast.parserAccepts (Cbor.stats 64 (Ref.encode n)) = true := by
  have b := bd_encode 64 n Fast.maxArrayElements (by decide) h
  have hd : (Cbor.stats 64 (Ref.encode n)).depth ≤ Fast.maxNestedLevels := Nat.le_trans b.depth (by decide)
  simp [Fast.parserAccepts, b.arr, b.map, hd]

/-- agreement including the parser limits: what the driver executes for the hand-written path -/
theorem fast_agrees_limited (n : Node) (wf : n.WF) (h : n.maxList ≤ Fast.maxArrayElements) :
    ∃ n', Fast.decodeLimited n.kind (Ref.encode n) = .ok n' ∧ obs n' = obs n := by
  obtain ⟨n', hn, ho⟩ := (fast_agrees n wf).1
  exact ⟨n', by simp [Fast.decodeLimited, parser_limits n h, hn], ho⟩

/-- the two decoders agree with each other (the form the harness oracle checks) -/
theorem fast_eq_classic (n : Node) (wf : n.WF) :
    ∃ f c, Fast.decode n.kind (Ref.encode n) = .ok f ∧ Ref.decode n.kind (Ref.encode n) = .ok c ∧ obs f = obs c := by
  obtain ⟨⟨f, hf, hof⟩, ⟨c, hc, hoc⟩⟩ := fast_agrees n wf
  exact ⟨f, c, hf, hc, hof.trans hoc.symm⟩

/-- **agreement for the current tree** (decoders with fix 8c63bd7, the model the driver runs): same statement -/
theorem current_fast_agrees (n : Node) (wf : n.WF) :
    (∃ n', FastFixed.decode n.kind (Ref.encode n) = .ok n' ∧ obs n' = obs n) ∧
    (∃ n'', Ref.decode n.kind (Ref.encode n) = .ok n'' ∧ obs n'' = obs n) := by
  obtain ⟨⟨n', hn, ho⟩, hr⟩ := fast_agrees n wf
  exact ⟨⟨n', FastFixed.decode_ok_of_pinned_ok hn, ho⟩, hr⟩

theorem current_fast_agrees_limited (n : Node) (wf : n.WF) (h : n.maxList ≤ Fast.maxArrayElements) :
    ∃ n', FastFixed.decodeLimited n.kind (Ref.encode n) = .ok n' ∧ obs n' = obs n := by
  obtain ⟨n', hn, ho⟩ := fast_agrees_limited n wf h
  exact ⟨n', FastFixed.decodeLimited_ok_of_pinned_ok hn, ho⟩

/-- the current hand-written decoders never panic, on any CBOR tree of any kind (shared with property C12) -/
theorem current_never_panics (k : Kind) (v : Cbor.Val) : ∀ w, FastFixed.decode k v ≠ Ledger.Outcome.panic w :=
  FastFixed.np_decode k v

/-! ### a node of one kind is never accepted as another kind -/

/-- every encoded node is an array that starts with its kind number -/
theorem encode_head (n : Node) (wf : n.WF) : ∃ t, Ref.encode n = .arr (Ref.encInt n.kind.num :: t) := by
  cases n <;>
    simp only [Ref.encode, Ref.tuple, Ref.encDataFrame, dfItems_eq, tupleItems'_cons_some, wf.1, Node.kind, Kind.num] <;>
    exact ⟨_, rfl⟩

theorem kind_of_num (k : Kind) : Kind.all[k.num.toNat]? = some k := by cases k <;> rfl

theorem kindNum_inj (a b : Kind) (h : a.num = b.num) : a = b :=
  Option.some.inj (by rw [← kind_of_num a, h, kind_of_num b])

theorem readKind_mismatch (have_ want : Int) (h : I64 have_) (hne : have_ ≠ want) (t : List Val) :
    ∃ e, Fast.readKind (Ref.encInt have_ :: t) want = .err e := by
  simp only [Fast.readKind, get_cons_zero, getUint64_encInt have_ h, Outcome.ok_bind, castI64_castU64 have_ h]
  exact ⟨_, if_pos hne⟩

/-- every hand-written decoder starts by reading the kind: when that fails, so does the decoder -/
theorem decode_of_readKind_err (k : Kind) (arr : List Val) (e : String) (h : Fast.readKind arr k.num = .err e) :
    Fast.decode k (.arr arr) = .err e := by
  cases k <;>
  · simp only [Kind.num] at h
    show (Fast.readKind arr _ >>= _) >>= _ = _
    rw [h]; rfl

/-- **kind exclusivity**: offered to the decoder of any other kind, the encoding of a schema-conforming node is rejected
    with an error — never accepted, never a panic. -/
theorem kind_exclusive (n : Node) (wf : n.WF) (k : Kind) (hk : k ≠ n.kind) :
    ∃ e, Fast.decode k (Ref.encode n) = .err e := by
  obtain ⟨t, ht⟩ := encode_head n wf
  obtain ⟨e, he⟩ := readKind_mismatch _ k.num (kindNum_I64 _) (fun h => hk (kindNum_inj _ _ h).symm) t
  exact ⟨e, by rw [ht, decode_of_readKind_err k _ e he]⟩

/-- **kind exclusivity for the current tree** -/
theorem current_kind_exclusive (n : Node) (wf : n.WF) (k : Kind) (hk : k ≠ n.kind) :
    ∃ e, FastFixed.decode k (Ref.encode n) = .err e := by
  obtain ⟨e, he⟩ := kind_exclusive n wf k hk
  rcases FastFixed.ref_decode k (Ref.encode n) with h | ⟨w, h⟩
  · exact ⟨e, by rw [← h, he]⟩
  · rw [he] at h; cases h

/-! ### integer sign handling through the casts of cbor.go -/

/-- every Go `int` (negative, zero, MinInt64, MaxInt64) survives `encode → i.(uint64)/i.(int64) → uint64(·) → int(·)`
    and the schema-driven path unchanged -/
theorem int_sign (v : Int) (h : I64 v) :
    (∃ u, Fast.getUint64 (Ref.encInt v) = .ok u ∧ castI64 u = v) ∧ Ref.decInt (Ref.encInt v) = .ok v :=
  ⟨⟨_, getUint64_encInt v h, castI64_castU64 v h⟩, decInt_encInt v h⟩

/-- a uint64 (a CRC64 hash, a block height) stored in a Go `int`: values from 2^63 up are negative as `int`, are written
    by the reference encoder as negative CBOR integers, come back through both decoders as the same `int`, and the
    accessors `GetHash` / `GetBlockHeight` (`uint64(**p)`) return the original uint64 -/
theorem int_sign_uint64 (u : Nat) (h : u < 18446744073709551616) :
    I64 (castI64 u) ∧ (9223372036854775808 ≤ u → castI64 u < 0) ∧
    (∃ w, Fast.getUint64 (Ref.encInt (castI64 u)) = .ok w ∧ castI64 w = castI64 u) ∧
    Ref.decInt (Ref.encInt (castI64 u)) = .ok (castI64 u) ∧
    obsOptU64 (some (some (castI64 u))) = some u := by
  refine ⟨castI64_I64 u, ?_, (int_sign _ (castI64_I64 u)).1, (int_sign _ (castI64_I64 u)).2, ?_⟩
  · intro h2; unfold castI64; omega
  · simp [obsOptU64, castU64_castI64 u h]

/-- a CBOR unsigned integer above MaxInt64 (never produced by the reference encoder, but by other writers): both
    decoders wrap it to the same negative `int` -/
theorem int_sign_large_uint (u : Nat) :
    (do let w ← Fast.getUint64 (.uint u); Outcome.ok (castI64 w)) = Outcome.ok (castI64 u) ∧
    Ref.decInt (.uint u) = .ok (castI64 u) := by
  constructor
  · simp [Fast.getUint64]
  · simp [Ref.decInt, Ref.untag]

/-- the casts are Go's fixed-width two's-complement conversions (stated with Lean's own `UInt64`/`Int64`) -/
theorem castI64_eq_toInt64 (u : Nat) : castI64 u = (UInt64.ofNat u).toInt64.toInt := by
  have hc : (Int64.toBitVec ⟨UInt64.ofNat u⟩).toNat = u % 18446744073709551616 := by
    show (UInt64.ofNat u).toBitVec.toNat = _
    simp [UInt64.toBitVec_ofNat']
  unfold castI64
  rw [UInt64.toInt64, Int64.toInt]
  simp only [BitVec.toInt_eq_toNat_cond, hc]
  omega

theorem castU64_eq_toUInt64 (v : Int) : castU64 v = (Int64.ofInt v).toUInt64.toNat := by
  unfold castU64
  simp [Int64.ofInt, UInt64.toNat, BitVec.toNat_ofInt]

/-! ### non-vacuity: the hypotheses are satisfiable, the conclusions are not trivial -/

/-- CIDv1 / raw / identity multihash of the empty digest -/
def cidA : Cid := [0x01, 0x55, 0x00, 0x00]
/-- CIDv1 / dag-cbor / sha2-256, the shape the CAR writers produce -/
def cidB : Cid := [0x01, 0x71, 0x12, 0x20,
  0xc7, 0x17, 0xfd, 0xdb, 0x1b, 0x84, 0xd2, 0xc5, 0x2b, 0x9e, 0xf9, 0xfe, 0x29, 0x92, 0x4b, 0x04,
  0x4d, 0x7f, 0x67, 0xaa, 0x74, 0xa6, 0x38, 0x56, 0x6d, 0xf3, 0x71, 0x83, 0x3b, 0x56, 0xb7, 0x7b]

def exFrame : DataFrame := ⟨6, some (some (-5)), none, some none, [1, 2, 3], some (some [cidA, cidB])⟩
def exFrame2 : DataFrame := ⟨6, none, some (some 0), some (some 2), [], none⟩
def exEpoch : Node := .epoch ⟨4, 39, [cidA, cidB]⟩
def exSubset : Node := .subset ⟨3, 0, 431999, [cidB]⟩
def exBlock : Node := .block ⟨2, 17, [⟨0, 1⟩, ⟨-1, -9223372036854775808⟩], [cidA], ⟨16, 1700000000, some (some 9223372036854775807)⟩, cidB⟩
def exEntry : Node := .entry ⟨1, 12500, [0xaa, 0xbb], []⟩
def exRewards : Node := .rewards ⟨5, 17, exFrame⟩
def exTransaction : Node := .transaction ⟨0, exFrame, exFrame2, 17, some none⟩
def exDataFrame : Node := .dataFrame exFrame

example : exEpoch.WF := by decide +kernel
example : exSubset.WF := by decide +kernel
example : exBlock.WF := by decide +kernel
example : exEntry.WF := by decide +kernel
example : exRewards.WF := by decide +kernel
example : exTransaction.WF := by decide +kernel
example : exDataFrame.WF := by decide +kernel

example : ∃ n', Fast.decode .transaction (Ref.encode exTransaction) = .ok n' ∧ obs n' = obs exTransaction :=
  (fast_agrees exTransaction (by decide +kernel)).1
example : ∃ e, Fast.decode .block (Ref.encode exEpoch) = .err e := kind_exclusive exEpoch (by decide +kernel) .block (by decide)
example : ∃ e, Fast.decode .dataFrame (Ref.encode exTransaction) = .err e := kind_exclusive exTransaction (by decide +kernel) .dataFrame (by decide)

/-- WF is a real restriction: a value whose int does not fit int64, a link that is not a CID, a wrong kind -/
example : ¬ (Node.epoch ⟨4, 9223372036854775808, []⟩).WF := by decide +kernel
example : ¬ (Node.epoch ⟨4, 1, [[0x01, 0x55, 0x00]]⟩).WF := by decide +kernel
example : ¬ (Node.epoch ⟨3, 1, []⟩).WF := by decide +kernel

/-- the model's panic outcomes are reachable (so "accepted, never a panic" says something): the unchecked assertions of
    cbor.go on inputs outside the schema — `hash.([]byte)`, `meta.([]interface{})`, `data.([]interface{})`, `rawBytes[1:]` -/
example : ∃ w, Fast.decode .entry (.arr [.uint 1, .uint 1, .uint 7, .arr []]) = .panic w := ⟨_, rfl⟩
example : ∃ w, Fast.decode .block (.arr [.uint 2, .uint 1, .arr [], .arr [], .uint 5, Ref.encLink cidA]) = .panic w := ⟨_, rfl⟩
example : ∃ w, Fast.decode .rewards (.arr [.uint 5, .uint 1, .null]) = .panic w := ⟨_, rfl⟩
example : ∃ w, Fast.decode .epoch (.arr [.uint 4, .uint 1, .arr [.tag 42 (.bytes [])]]) = .panic w := ⟨_, rfl⟩
/-- and the two decoders really differ outside the schema: an extra tuple entry -/
example : (∃ n, Fast.decode .epoch (.arr [.uint 4, .uint 1, .arr [], .uint 99]) = .ok n) ∧
    (∃ e, Ref.decode .epoch (.arr [.uint 4, .uint 1, .arr [], .uint 99]) = .error e) := ⟨⟨_, rfl⟩, ⟨_, rfl⟩⟩

/-- integers: -1 and MinInt64 through the hand-written path; 2^64-1 wraps to -1 on both paths -/
example : castI64 (castU64 (-9223372036854775808)) = -9223372036854775808 := by decide +kernel
example : castI64 18446744073709551615 = -1 := by decide +kernel
example : obsOptU64 (some (some (-1))) = some 18446744073709551615 := by decide +kernel

end C11
