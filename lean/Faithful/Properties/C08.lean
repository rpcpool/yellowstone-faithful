import Faithful.Lib.Request
import Faithful.Lib.RequestProofs
import Faithful.Generated.Derefs
import Faithful.Generated.Consts
/-!
# Property C08 — no request can crash the server

For every HTTP request and every gRPC request message the server produces a response or an error status; no
request makes a handler panic.

The model (`Faithful/Lib/Request.lean`) mirrors the repaired code (fixes C08-1, C08-2, C08-3 and, for the
`vote` / `failed` optionals of the stream filter, the C19 fix); every Go operation that can fail at run time
(`*p`, `xs[i]`, `s[n:]`, `Must…`, `make` with a request-sized capacity) is an explicit step returning
`Outcome.panic`, so the theorems below are about reachability of those steps, for **all** inputs.

`C08_partial` is partial in exactly this sense: decoding of the bytes on the wire (fasthttp, encoding/json,
jsoniter, protobuf, solana-go) and the data layer behind the parsed request are *assumed* not to panic (hypothesis
`T.total`; `Backend` answers are plain values).  The tie to the source is `derefs_guarded` (regenerated from the
tree on every run) and the correspondence run.
-/

namespace C08
open Req Req.Outcome

theorem parseGetBlock_total : ∀ (p : Option Json) (why : String), parseGetBlock p ≠ .panic why :=
  fun p => (parseGetBlock_safe p).ne_panic

theorem parseGetTransaction_total : ∀ (p : Option Json) (why : String), parseGetTransaction p ≠ .panic why :=
  fun p => (parseGetTransaction_safe p).ne_panic

theorem parseGetBlockTime_total : ∀ (p : Option Json) (why : String), parseGetBlockTime p ≠ .panic why :=
  fun p => (parseGetBlockTime_safe p).ne_panic

theorem parseGetSignaturesForAddress_total : ∀ (p : Option Json) (why : String), parseGsfa p ≠ .panic why :=
  fun p => (parseGsfa_safe p).ne_panic

-- non-vacuity: the parsers do accept requests (and reject others without panicking)
example : parseGetBlock (some (.arr [.num ⟨432001, true, true⟩])) = .ok ⟨432001, blockDefaults⟩ := by decide +kernel
example : parseGetBlock (some (.arr [.num ⟨5, true, true⟩, .obj [("rewards", .bool false)]])) =
    .ok ⟨5, { blockDefaults with rewards := some false }⟩ := by decide +kernel
example : parseGetBlock none = .err "params are required" := rfl
example : parseGetBlock (some .null) = .err "params must have at least one argument" := by decide +kernel
example : parseGetBlockTime (some (.arr [.num ⟨7, true, true⟩])) = .ok 7 := by decide +kernel
example : parseGetTransaction (some (.arr [.str "abc"])) = .err "failed to parse signature from base58" := by decide +kernel
example : parseGsfa (some (.arr [.str "11111111111111111111111111111111"])) = .ok {} := by decide +kernel

theorem parseGetBlock_establishes {p : Option Json} {r : GetBlockReq} (h : parseGetBlock p = .ok r) :
    r.opts.commitment.isSome = true ∧ r.opts.encoding.isSome = true ∧ r.opts.txDetails.isSome = true ∧
      r.opts.rewards.isSome = true :=
  (parseGetBlock_safe p).of_ok h

theorem parseGetTransaction_establishes {p : Option Json} {r : GetTxReq} (h : parseGetTransaction p = .ok r) :
    r.opts.encoding.isSome = true :=
  (parseGetTransaction_safe p).of_ok h

example : ∃ p r, parseGetBlock p = .ok r := ⟨some (.arr [.num ⟨1, true, true⟩]), ⟨1, blockDefaults⟩, by decide +kernel⟩
example : ∃ p r, parseGetTransaction p = .ok r :=
  ⟨some (.arr [.str "1111111111111111111111111111111111111111111111111111111111111111"]), ⟨0, { encoding := some "json" }⟩, by decide +kernel⟩

/-! ### the handler preludes (`*params.Options.Rewards`, `*params.Options.Encoding`) are total -/

theorem preludeGetBlock_total (B : Backend) (r : GetBlockReq)
    (hr : r.opts.rewards.isSome = true) (he : r.opts.encoding.isSome = true) : NoPanic (preludeGetBlock B r) :=
  Safe.bind (deref_safe hr _) fun _ _ => Safe.ite ((deref_safe he _).bind fun _ _ => trivial) trivial

theorem handler_prelude_total (B : Backend) (r : GetBlockReq)
    (hr : r.opts.rewards.isSome = true) (he : r.opts.encoding.isSome = true) :
    ∀ why, preludeGetBlock B r ≠ .panic why :=
  (preludeGetBlock_total B r hr he).ne_panic

theorem handler_prelude_tx_total (r : GetTxReq) (he : r.opts.encoding.isSome = true) :
    NoPanic (preludeGetTransaction r) :=
  (deref_safe he _).bind fun _ _ => trivial

-- non-vacuity: without the established options the prelude does panic
example : preludeGetBlock ⟨fun _ => true, fun _ => 1, fun _ => true⟩ ⟨1, {}⟩ =
    .panic "nil pointer dereference: *params.Options.Rewards" := by decide +kernel
example : preludeGetBlock ⟨fun _ => true, fun _ => 1, fun _ => true⟩ ⟨1, blockDefaults⟩ = .ok "data" := rfl

theorem handleGetBlock_total (w : World) (B : Backend) (raw : Option Json) : NoPanic (handleGetBlock w B raw) := by
  unfold handleGetBlock
  split
  · exact absurd ‹_› ((parseGetBlock_safe raw).ne_panic _)
  · trivial
  · obtain ⟨_, he, _, hr⟩ := (parseGetBlock_safe raw).of_ok ‹_›
    refine (validateEncoding_safe _ _).bind fun v _ => ?_
    split
    · trivial
    · exact Safe.ite trivial <| Safe.ite trivial <| preludeGetBlock_total B _ hr he

theorem handleGetTransaction_total (w : World) (B : Backend) (raw : Option Json) :
    NoPanic (handleGetTransaction w B raw) := by
  unfold handleGetTransaction
  refine Safe.ite trivial <| ?_
  split
  · exact absurd ‹_› ((parseGetTransaction_safe raw).ne_panic _)
  · trivial
  · have he := (parseGetTransaction_safe raw).of_ok ‹_›
    refine Safe.ite trivial <| (validateEncoding_safe _ _).bind fun v _ => ?_
    split
    · trivial
    · exact Safe.ite trivial <| handler_prelude_tx_total _ he

theorem handleGsfa_total (w : World) (raw : Option Json) : NoPanic (handleGsfa w raw) := by
  have := parseGsfa_safe raw
  unfold handleGsfa
  split <;> simp_all

theorem handleGetBlockTime_total (w : World) (raw : Option Json) : NoPanic (handleGetBlockTime w raw) := by
  have := parseGetBlockTime_safe raw
  unfold handleGetBlockTime
  split <;> simp_all

theorem handleRequest_total (w : World) (B : Backend) (rq : RpcRequest) : NoPanic (handleRequest w B rq) := by
  simp [handleRequest, handleGetBlock_total, handleGetTransaction_total, handleGsfa_total, handleGetBlockTime_total]

/-- every HTTP request is answered: the closure of `newMultiEpochHandler` never panics -/
theorem http_total (w : World) (B : Backend) (r : HttpReq) : NoPanic (handleHttp w B r) := by
  simp only [handleHttp, safe_ite, safe_ok, apiHandler_safe, implies_true, true_and]
  intros
  split <;> simp [handleRequest_total]

-- non-vacuity: one request of each kind
example : handleHttp ⟨[(1, true)], false⟩ ⟨fun _ => true, fun _ => 1, fun _ => true⟩
    ⟨"POST", "/", 40, .json (.obj [("method", .str "getBlock"), ("id", .num ⟨1, true, true⟩)])⟩ = .ok "200:e-32602" := by decide +kernel
example : handleHttp ⟨[(1, true)], false⟩ ⟨fun _ => true, fun _ => 1, fun _ => true⟩
    ⟨"POST", "/", 40, .json (.obj [("method", .str "getBlock"), ("params", .arr [.num ⟨432001, true, true⟩])])⟩ = .ok "data" := by decide +kernel
example : handleHttp ⟨[], false⟩ ⟨fun _ => true, fun _ => 1, fun _ => true⟩ ⟨"GET", "/api/v1/slot-to-cid/x", 0, .malformed⟩ = .ok "400:empty" := by decide +kernel

/-- the filter step is total once the account strings have been validated (which `StreamTransactions` does
    first); absent `vote` / `failed` need no hypothesis at all -/
theorem grpc_filter_total (f : Option TxFilter) (hv : validateFilter f = true) (gsfaLoaded : Bool) (tx : TxFacts) :
    ∀ why, filterStep f gsfaLoaded tx ≠ .panic why :=
  (filterStep_safe f hv gsfaLoaded tx).ne_panic

-- non-vacuity: `StreamTransactionsFilter{}` (all optionals absent) passes a transaction; an invalid account is
-- what the hypothesis excludes
example : filterStep (some ⟨none, none, [], [], []⟩) false ⟨true, true, fun _ => false⟩ = .ok true := by decide +kernel
example : validateFilter (some ⟨none, none, ["11111111111111111111111111111111"], [], []⟩) = true := by decide +kernel
example : validateFilter (some ⟨none, none, [], [""], []⟩) = false := by decide +kernel
example : (filterStep (some ⟨some true, some true, [], ["0OIl"], []⟩) false ⟨false, false, fun _ => false⟩).isPanic = true := by decide +kernel

/-- `StreamTransactions` for every request (any slots, absent optionals, malformed accounts, any transactions met) -/
theorem streamTransactions_total (w : World) (hw : w.WF) (r : StreamTxReq) (txs : List TxFacts) :
    NoPanic (streamTransactions w r txs) := by
  unfold streamTransactions
  refine Safe.dite (fun _ => trivial) fun hv => Safe.bind (P := fun _ => True) ?_ fun _ _ => ?_
  · exact Safe.dite (fun _ => trivial) fun h => absurd hw h
  · have hv : validateFilter r.filter = true := by simpa using hv
    have hscan g : NoPanic ((scanTxs r.filter g txs).bind fun _ => .ok dataResp) :=
      (scanTxs_safe _ hv g txs).bind fun _ _ => trivial
    refine Safe.ite (Safe.ite trivial <| hscan _) <| Safe.bind (P := fun _ => True) ?_ fun _ _ => hscan _
    cases hf : r.filter with
    | none => trivial
    | some f =>
      simp only [validateFilter, hf, Bool.and_eq_true] at hv
      exact mustAll_safe _ hv.1.1

example : streamTransactions ⟨[(1, true)], false⟩ ⟨432000, some 432020, some ⟨none, none, [], [], []⟩, false⟩
    [⟨true, false, fun _ => false⟩] = .ok "data" := by decide +kernel
example : streamTransactions ⟨[(1, true)], false⟩ ⟨432000, some 432020, some ⟨some true, some true, [""], [], []⟩, false⟩ [] =
    .ok "InvalidArgument" := by decide +kernel
example : streamTransactions ⟨[], false⟩ ⟨5, some (2 ^ 64 - 1), none, true⟩ [] = .ok "Canceled" := by decide +kernel

theorem blockContainsAccounts_total (txs : List BcaTx) : NoPanic (blockContainsAccounts txs) := by
  induction txs with
  | nil => trivial
  | cons t rest ih =>
    unfold blockContainsAccounts
    refine Safe.ite ih <| Safe.ite trivial <| Safe.dite (fun _ => ih) fun hm => ?_
    -- the guard `!t.metaOk` has just failed: the container pointer is not nil
    rw [Bool.not_eq_true, Bool.not_eq_false'] at hm
    rw [if_pos hm]
    exact Safe.ite trivial <| ih

example : blockContainsAccounts [⟨true, false, false, false⟩, ⟨true, false, true, true⟩] = .ok true := by decide +kernel

theorem scanBlocks_total (nf : Bool) (blocks : List (List BcaTx)) : NoPanic (scanBlocks nf blocks) := by
  induction blocks with
  | nil => trivial
  | cons b rest ih => exact Safe.ite ((blockContainsAccounts_total b).bind fun _ _ => ih) ih

theorem streamBlocks_total (r : StreamBlocksReq) (blocks : List (List BcaTx)) : NoPanic (streamBlocks r blocks) :=
  Safe.ite trivial <| (scanBlocks_total _ blocks).bind fun _ _ => trivial

example : streamBlocks ⟨432000, none, some ["x"], false⟩ [[⟨true, false, false, false⟩]] = .ok "data" := by decide +kernel

theorem get_dispatch_total (w : World) (items : List GetItem) (tailErr : Bool) (sf : Nat) (sent : List Resp) :
    NoPanic (getLoop w items tailErr sf sent) := by
  induction items generalizing sent with
  | nil => trivial
  | cons it rest ih =>
    have reply (r : Resp) : NoPanic (if sf > 0 && sent.length + 1 ≥ sf then .ok (sent, dataResp)
        else getLoop w rest tailErr sf (sent ++ [r])) :=
      Safe.ite trivial <| ih _
    cases it with
    | nothing => trivial
    | _ => exact reply _

example : getLoop ⟨[], false⟩ [.version, .block 5, .nothing, .version] false 0 [] = .ok (["version", "epoch"], "InvalidArgument") := by decide +kernel

theorem handle_total (w : World) (hw : w.WF) (B : Backend) (r : Request) : NoPanic (handle w B r) := by
  cases r with
  | http r => exact http_total w B r
  | grpcStreamBlocks r bs => exact streamBlocks_total r bs
  | grpcStreamTransactions r txs => exact streamTransactions_total w hw r txs
  | grpcGet items te sf => exact (get_dispatch_total w items te sf []).bind fun _ _ => trivial
  | _ => trivial

/-- No request makes a handler panic — under the explicit hypothesis that third-party decoding of the wire
    bytes is total (`T.total`), and with the data layer's answers taken as values (`Backend`).
    PARTIAL: fasthttp, encoding/json, jsoniter, protobuf and solana-go decoding and the data layer below the
    parsed request are assumed, not proved, to be panic-free (the data layer is property C12's subject). -/
theorem C08_partial (T : ThirdParty) (hT : T.total) (w : World) (hw : w.WF) (B : Backend) :
    ∀ (bytes : List UInt8) (why : String), handleWire T w B bytes ≠ .panic why := by
  intro bytes why
  unfold handleWire
  split
  · exact (handle_total w hw B _).ne_panic why
  · exact nofun
  · exact absurd ‹_› (hT bytes _)

-- non-vacuity of the hypothesis: a total decoder exists, and the conclusion is about real answers
example : ∃ T : ThirdParty, T.total := ⟨⟨fun _ => .ok .grpcGetVersion⟩, by intro b w; simp⟩
example : handleWire ⟨fun _ => .ok (.grpcGetBlock 5)⟩ ⟨[(1, false)], false⟩ ⟨fun _ => true, fun _ => 0, fun _ => true⟩ [] = .ok "epoch" := by decide +kernel

/-! ### the defects of the pinned tree, formally -/

/-- `parseGetBlockRequest(nil)` — a request without a `params` member — dereferences nil (same for the siblings) -/
theorem pinned_parse_panics :
    parseGetBlockPinned none = .panic "nil pointer dereference: *raw in parseGetBlockRequest" ∧
    parseGetTransactionPinned none = .panic "nil pointer dereference: *raw in parseGetTransactionRequest" ∧
    parseGetBlockTimePinned none = .panic "nil pointer dereference: *raw in parseGetBlockTimeRequest" ∧
    parseGsfaPinned none = .panic "nil pointer dereference: *raw in parseGetSignaturesForAddressParams" := by
  decide +kernel

/-- `"params": null` is an error answer there, not a panic -/
theorem pinned_parse_null_ok : parseGetBlockPinned (some .null) = .err "params must have at least one argument" := by decide +kernel

/-- `StreamTransactionsFilter{}`: `*filter.Vote` on an absent optional -/
theorem pinned_filter_panics (tx : TxFacts) :
    filterStepPinned (some ⟨none, none, [], [], []⟩) false tx = .panic "nil pointer dereference: *filter.Vote" := by rfl

/-- a malformed account reaches `MustPublicKeyFromBase58` when nothing validates the filter -/
theorem pinned_must_panics : (streamTransactionsPinned ⟨[(1, true)], false⟩
    ⟨432000, some 432020, some ⟨some true, some true, [], [""], []⟩, false⟩ [⟨false, false, fun _ => false⟩]).isPanic = true := by decide +kernel

/-- `make([]*Epoch, 0, endEpoch-startEpoch+1)`: an end slot far ahead, or more than an epoch behind the start -/
theorem pinned_makeslice_panics :
    (gsfaReadersCapPinned 5 (2 ^ 64 - 1)).isPanic = true ∧ (gsfaReadersCapPinned 864005 5).isPanic = true := by decide +kernel

/-- `blockContainsAccounts` with a transaction whose metadata does not parse: nil container dereferenced -/
theorem pinned_bca_panics : blockContainsAccountsPinned [⟨true, false, false, false⟩] =
    .panic "nil pointer dereference: meta.GetLoadedAccounts()" := by decide +kernel

/-! ### the tie to the source, regenerated on every run -/

/-- the two constants of the model are the ones in the tree (`slottools.EpochLen`, `maxSlotsToStream`) -/
theorem gen_consts_eq_model : Generated.epochLen = Req.epochLen ∧ Generated.maxSlotsToStream = Req.maxSlotsToStream := by decide +kernel

/-- every pointer dereference, unchecked type assertion, `Must…` call, constant index / slice expression and
    request-sized `make` on a request-derived value in the anchored request-parsing functions and the gRPC
    filter / dispatch code is dominated by a guard the translator recognises (unknown ⇒ unguarded) -/
theorem derefs_guarded : ∀ d ∈ Generated.derefs, d.guarded = true := by decide +kernel

example : Generated.derefs ≠ [] := by decide +kernel

end C08
