import Faithful.Lib.CompactIndexProofs
import Faithful.Lib.CompactIndexBytes
import Faithful.Lib.CompactIndexLegacyBytes
import Faithful.Generated.IntFns

/-!
# C04 — compact hash index: every inserted key is found with its value

Statements are about `CI.buildA` / `CI.lookupA` (Faithful/Lib/CompactIndex.lean), the abstract layer of the
model the driver executes; the byte layer (`CI.encode`, `CI.openB`, `CI.lookupB`) is tied to the real files
byte for byte by the correspondence run, and to the abstract layer by proof (second half of this file:
`open_encode`, `lookup_bytes_agree`, `build_lookup_bytes`, `lookup_sound_bytes`, and the `…_legacy` versions for
the two deprecated formats); the driver's `MODEL-LAYERS-DISAGREE` marker checks the same agreement at run time.
All theorems hold for an arbitrary pair of hash functions `hf`, so they never rely on
xxhash being collision free: a bad hash can only make `buildA` fail.
-/
namespace C04
open CI B

/-- tie: the translated Go `hashUint64` is the model's Murmur finaliser -/
theorem gen_hashUint64_eq_model : Generated.hashUint64 = H.hashUint64 := by
  funext x; rfl

/-- the two legacy copies use the same finaliser -/
theorem gen_legacy_hashUint64_eq_model :
    Generated.legacy8HashUint64 = H.hashUint64 ∧ Generated.legacy36HashUint64 = H.hashUint64 := by
  constructor <;> (funext x; rfl)

/-- **every inserted key is found with exactly its value** — any key set, any value size the builder accepts,
    any declared count, any metadata, any number of buckets and any bucket population. -/
theorem build_lookup (hf : HF) (vs declared : Nat) (m : List (Bytes × Bytes)) (kvs : List KV) (ix : IndexA)
    (h : buildA hf vs declared m kvs = .ok ix) (kv : KV) (hkv : kv ∈ kvs) :
    lookupA hf ix kv.key = .found kv.val := by
  obtain ⟨_, _, _, hbk, _⟩ := buildA_ok hf vs declared m kvs ix h
  obtain ⟨i, hi, hlt⟩ := hbk kv hkv
  obtain ⟨b, hb, hseal⟩ := bucket_of_build hf vs declared m kvs ix h i hlt
  have hin : kv ∈ bucketKVs hf ix.numBuckets kvs i := by
    unfold bucketKVs
    rw [List.mem_filter]
    exact ⟨hkv, by simp [hi]⟩
  have := sealBucket_lookup hf _ b hseal kv hin
  unfold lookupA
  simp only [hi, hb, this]

/-- a hit is always an inserted pair from the same bucket with the same 24-bit in-bucket hash
    (no answer is invented; used by C03) -/
theorem lookup_sound (hf : HF) (vs declared : Nat) (m : List (Bytes × Bytes)) (kvs : List KV) (ix : IndexA)
    (h : buildA hf vs declared m kvs = .ok ix) (key v : Bytes) (hl : lookupA hf ix key = .found v) :
    ∃ kv ∈ kvs, ∃ i b, hf.bucket key ix.numBuckets = some i ∧ hf.bucket kv.key ix.numBuckets = some i ∧
      ix.buckets[i]? = some b ∧ hf.entry b.nonce kv.key = hf.entry b.nonce key ∧ kv.val = v := by
  unfold lookupA at hl
  split at hl
  · cases hl
  · rename_i i hi
    split at hl
    · cases hl
    · rename_i b hb
      split at hl
      · rename_i v' hs
        simp only [Look.found.injEq] at hl; subst hl
        have hlt : i < ix.numBuckets := by
          obtain ⟨_, _, _, _, hall⟩ := buildA_ok hf vs declared m kvs ix h
          have hlen := allSome_length _ _ hall
          rw [List.length_map, List.length_range] at hlen
          exact hlen ▸ (List.getElem?_eq_some_iff.mp hb).1
        obtain ⟨b', hb', hseal⟩ := bucket_of_build hf vs declared m kvs ix h i hlt
        have : b' = b := by rw [hb] at hb'; exact (Option.some.inj hb').symm
        subst this
        obtain ⟨kv, hkv, he, hv⟩ := sealBucket_sound hf _ b' hseal _ _ hs
        unfold bucketKVs at hkv
        rw [List.mem_filter] at hkv
        refine ⟨kv, hkv.1, i, b', hi, ?_, hb, he, hv⟩
        simpa using hkv.2
      · cases hl

/-- **failing loudly**: the same key inserted twice (with any values) can never produce an index -/
theorem duplicate_key_fails (hf : HF) (vs declared : Nat) (m : List (Bytes × Bytes)) (pre mid post : List KV)
    (k : Bytes) (v1 v2 : Bytes) (ix : IndexA) :
    buildA hf vs declared m (pre ++ ⟨k, v1⟩ :: mid ++ ⟨k, v2⟩ :: post) ≠ .ok ix := by
  intro h
  obtain ⟨_, _, _, hbk, hall⟩ := buildA_ok hf vs declared m _ ix h
  obtain ⟨i, hi, hlt⟩ := hbk ⟨k, v1⟩ (by simp)
  obtain ⟨b, _, hseal⟩ := bucket_of_build hf vs declared m _ ix h i hlt
  -- in bucket i both copies are present: every nonce collides
  unfold sealBucket at hseal
  split at hseal
  · cases hseal
  · rename_i nonce sorted hm
    obtain ⟨hperm, hstrict⟩ := mine_strict hf _ nonce sorted hm
    have hnd := strict_nodup sorted hstrict
    have hnd2 : ((hashed hf nonce (bucketKVs hf ix.numBuckets (pre ++ ⟨k, v1⟩ :: mid ++ ⟨k, v2⟩ :: post) i)).map (·.1)).Nodup :=
      (hperm.map _).nodup_iff.mp hnd
    -- the filtered list contains the two copies at distinct positions
    have hfilter : bucketKVs hf ix.numBuckets (pre ++ ⟨k, v1⟩ :: mid ++ ⟨k, v2⟩ :: post) i
        = bucketKVs hf ix.numBuckets pre i ++ ⟨k, v1⟩ :: (bucketKVs hf ix.numBuckets mid i ++ ⟨k, v2⟩ :: bucketKVs hf ix.numBuckets post i) := by
      unfold bucketKVs
      simp [List.filter_append, List.filter_cons, hi]
    rw [hfilter] at hnd2
    unfold hashed at hnd2
    simp only [List.map_append, List.map_cons, List.map_map] at hnd2
    have := (List.nodup_append.mp hnd2).2.1
    rw [List.nodup_cons] at this
    apply this.1
    simp

/-- **insertion-order independence**: any permutation of the same inserts gives the same sealed index
    (hence, through `CI.encode`, the byte-identical file; the real builder's two sealings are compared byte for
    byte by the `reseal` op of the correspondence run). Also covers "sealing the same inserts twice". -/
theorem build_perm (hf : HF) (vs declared : Nat) (m : List (Bytes × Bytes)) (kvs kvs' : List KV) (hp : kvs.Perm kvs') :
    buildA hf vs declared m kvs = buildA hf vs declared m kvs' ∧
    (buildA hf vs declared m kvs).toOption.map encode = (buildA hf vs declared m kvs').toOption.map encode := by
  have := buildA_perm hf vs declared m kvs kvs' hp
  exact ⟨this, by rw [this]⟩

/-- parameters the format cannot hold are refused by the constructor (after the `fix:` commits: value sizes
    above 255 − HashSize were accepted by the pinned tree and made `Seal` panic) -/
theorem bad_params_fail (hf : HF) (vs declared : Nat) (m : List (Bytes × Bytes)) (kvs : List KV)
    (h : vs = 0 ∨ vs > 255 ∨ declared = 0) : buildA hf vs declared m kvs = .error .badParams := by
  unfold buildA; simp [h]

/-- success does not depend on the declared item count beyond the number of buckets it selects:
    the statement of `build_lookup` has no hypothesis on `declared` (1×..10× the real count included). -/
theorem build_declared_irrelevant (hf : HF) (vs d1 d2 : Nat) (m : List (Bytes × Bytes)) (kvs : List KV) (ix1 ix2 : IndexA)
    (h1 : buildA hf vs d1 m kvs = .ok ix1) (h2 : buildA hf vs d2 m kvs = .ok ix2) (kv : KV) (hkv : kv ∈ kvs) :
    lookupA hf ix1 kv.key = lookupA hf ix2 kv.key := by
  rw [build_lookup hf vs d1 m kvs ix1 h1 kv hkv, build_lookup hf vs d2 m kvs ix2 h2 kv hkv]

/-! non-vacuity: the hypothesis `buildA … = .ok ix` of the theorems above is satisfiable — a one-key build
    succeeds for every hash pair, value size 1..255 and declared count (in-kernel); builds of up to 60 000 keys with
    the real xxhash64 succeed on every correspondence run (`sealed-ok` in the evidence). -/
theorem allSome_map_some {α β : Type} (f : α → Option β) : ∀ (l : List α), (∀ x ∈ l, ∃ y, f x = some y) →
    ∃ r, allSome (l.map f) = some r
  | [], _ => ⟨[], rfl⟩
  | a :: l, h => by
    obtain ⟨y, hy⟩ := h a (List.mem_cons_self ..)
    obtain ⟨r, hr⟩ := allSome_map_some f l (fun x hx => h x (List.mem_cons_of_mem _ hx))
    exact ⟨y :: r, by simp [allSome, hy, hr]⟩

theorem sealBucket_small (hf : HF) (kvs : List KV) (h : kvs.length ≤ 1) : ∃ b, sealBucket hf kvs = some b := by
  have hm : ∃ r, mine hf kvs = some r := by
    unfold mine
    have : Generated.mineAttempts = 999 + 1 := by decide
    rw [this, mineFrom]
    match kvs, h with
    | [], _ => simp [hashed, adjDup]
    | [kv], _ => simp [hashed, adjDup]
  obtain ⟨⟨n, s⟩, hr⟩ := hm
  exact ⟨⟨n, Eytz.layout s.toArray⟩, by simp [sealBucket, hr]⟩

theorem build_small_ok (hf : HF) (vs declared : Nat) (m : List (Bytes × Bytes)) (kvs : List KV)
    (hvs : 0 < vs ∧ vs ≤ 255) (hd : 0 < declared) (hl : kvs.length ≤ 1)
    (hb : ∀ kv ∈ kvs, ∃ i, hf.bucket kv.key (numBucketsFor declared) = some i ∧ i < numBucketsFor declared) :
    ∃ ix, buildA hf vs declared m kvs = .ok ix := by
  have h1 : ¬ (vs = 0 ∨ vs > 255 ∨ declared = 0) := by omega
  have h2 : kvs.any (fun kv => (hf.bucket kv.key (numBucketsFor declared)).isNone) = false := by
    rw [List.any_eq_false]
    intro kv hkv
    obtain ⟨i, hi, _⟩ := hb kv hkv
    simp [hi]
  obtain ⟨r, hr⟩ := allSome_map_some (fun j => sealBucket hf (bucketKVs hf (numBucketsFor declared) kvs j))
    (List.range (numBucketsFor declared))
    (fun j _ => sealBucket_small hf _ (Nat.le_trans (List.length_filter_le _ _) hl))
  refine ⟨⟨vs, numBucketsFor declared, m, r⟩, ?_⟩
  simp only [buildA, h1, h2, hr, if_false, Bool.false_eq_true]
  rw [if_neg]
  rw [Bool.not_eq_true, List.any_eq_false]
  intro kv hkv
  obtain ⟨i, hi, hlt⟩ := hb kv hkv
  simp only [hi, decide_eq_true_eq]
  omega

theorem build_singleton_ok (hf : HF) (vs declared : Nat) (m : List (Bytes × Bytes)) (kv : KV)
    (hvs : 0 < vs ∧ vs ≤ 255) (hd : 0 < declared) (i : Nat)
    (hb : hf.bucket kv.key (numBucketsFor declared) = some i) (hi : i < numBucketsFor declared) :
    ∃ ix, buildA hf vs declared m [kv] = .ok ix :=
  build_small_ok hf vs declared m [kv] hvs hd (Nat.le_refl 1) (fun _ h => List.mem_singleton.mp h ▸ ⟨i, hb, hi⟩)

def toyHF : HF := ⟨fun k n => if n = 0 then none else some (k.length % n), fun nonce k => k.length * 7 + nonce⟩

/-- a one-key build for the toy hash pair: 25000 declared items give three buckets, a two-byte key falls into bucket 2 -/
theorem toy_build (vs : Nat) (hvs : 0 < vs ∧ vs ≤ 255) (m : List (Bytes × Bytes)) (k v : Bytes) (hk : k.length = 2) :
    ∃ ix, buildA toyHF vs 25000 m [⟨k, v⟩] = .ok ix :=
  build_singleton_ok toyHF vs 25000 m ⟨k, v⟩ hvs (by decide) 2
    (by show (if numBucketsFor 25000 = 0 then none else some (k.length % numBucketsFor 25000)) = some 2
        rw [hk]; decide)
    (by decide)
example : ∃ ix, buildA toyHF 9 25000 [] [⟨[4,5], [8]⟩] = .ok ix ∧ lookupA toyHF ix [4,5] = .found [8] := by
  obtain ⟨ix, h⟩ := toy_build 9 (by omega) [] [4,5] [8] rfl
  exact ⟨ix, h, build_lookup toyHF 9 25000 [] _ ix h ⟨[4,5], [8]⟩ (by simp)⟩

/-! ## the byte layer: `Open` / `Lookup` over the file `Seal` writes

`CI.encode ix` is the file (compared byte for byte with the real builder's file on every run) and `CI.openB`,
`CI.lookupB` are the Go `Open` / `Lookup` reading that file through `ReadAt` (`CI.rd`).  On the file of ANY
successfully built index the byte-level reader opens without error and answers, for EVERY key, exactly what the abstract reader answers.

Size hypotheses (all on the inputs of the build, all explicit; lemmas in `Faithful/Lib/CompactIndexBytes.lean`):
* `MetaOk m`: the metadata obeys the `indexmeta` limits (≤ `MaxNumKVs` pairs, keys ≤ `MaxKeySize`, values ≤ `MaxValueSize`
  bytes: one length byte each);
* `vs ≤ 255 − HashSize`: the entry stride `HashSize + valueSize` is a `uint8` in the Go code;
* `numBucketsFor declared < 2^32`: `Header.NumBuckets` is a `uint32`;
* `kvs.length < 2^32`: `BucketHeader.NumEntries` is a `uint32`.
Derived, not assumed: nonces < 1000 < 2^32 (`mineFrom` gives up after `mineAttempts`), stored hashes < 2^24
(`HF.entry` masks to `HashSize` bytes), header length < 2^32, and the total file size < 2^48 so that the 6-byte
`BucketHeader.FileOffset` is exact (`CI.encode_length_lt`).
For the lookups, additionally every inserted value has exactly `vs` bytes (`Builder.Insert` refuses any other length;
the model's `marshalEntry` would zero-pad a shorter one).
No hypothesis on the hash functions: a key whose `hf.bucket` is out of range gets `.err` from both readers, one on
which it does not terminate gets `.hang` from both. -/

/-- `Open` succeeds on the sealed file and reads back value size, bucket count, metadata and header size. -/
theorem open_encode (hf : HF) (vs declared : Nat) (m : List (Bytes × Bytes)) (kvs : List KV) (ix : IndexA)
    (h : buildA hf vs declared m kvs = .ok ix)
    (hm : MetaOk m) (hvs : vs ≤ 255 - Generated.hashSize)
    (hnb : numBucketsFor declared < 2^32) (hn : kvs.length < 2^32) :
    ∃ db, openB (encode ix).toArray = .ok db ∧
      db.valueSize = ix.valueSize ∧ db.numBuckets = ix.numBuckets ∧ db.metaKVs = ix.metaKVs ∧
      db.headerSize = (headerBytes ix.valueSize ix.numBuckets ix.metaKVs).length :=
  ⟨_, openB_encode ix (encOk_of_build hf vs declared m kvs ix h hm hvs hnb hn), rfl, rfl, rfl, rfl⟩

/-- **the two layers of the model agree**: on the sealed file, the byte-level `Lookup` (bucket header read, 24-bit
    hash mask, eytzinger search over `ReadAt`) returns for EVERY key — present, absent, colliding, or hashing
    outside the table — exactly the answer of the abstract `lookupA`. -/
theorem lookup_bytes_agree (hf : HF) (vs declared : Nat) (m : List (Bytes × Bytes)) (kvs : List KV) (ix : IndexA)
    (h : buildA hf vs declared m kvs = .ok ix)
    (hm : MetaOk m) (hvs : vs ≤ 255 - Generated.hashSize)
    (hnb : numBucketsFor declared < 2^32) (hn : kvs.length < 2^32)
    (hval : ∀ kv ∈ kvs, kv.val.length = vs) :
    ∃ db, openB (encode ix).toArray = .ok db ∧
      ∀ key, lookupB hf (encode ix).toArray db key = lookupA hf ix key :=
  ⟨_, openB_encode ix (encOk_of_build hf vs declared m kvs ix h hm hvs hnb hn),
    lookupB_encode hf ix (encOk_of_build hf vs declared m kvs ix h hm hvs hnb hn)
      (valsOk_of_build hf vs declared m kvs ix h hval)⟩

/-- the same, for whatever `Open` returned (`openB` is a function, so `db` is the one of `open_encode`) -/
theorem lookup_bytes_agree_db (hf : HF) (vs declared : Nat) (m : List (Bytes × Bytes)) (kvs : List KV) (ix : IndexA)
    (h : buildA hf vs declared m kvs = .ok ix)
    (hm : MetaOk m) (hvs : vs ≤ 255 - Generated.hashSize)
    (hnb : numBucketsFor declared < 2^32) (hn : kvs.length < 2^32)
    (hval : ∀ kv ∈ kvs, kv.val.length = vs)
    (db : DB) (hdb : openB (encode ix).toArray = .ok db) (key : Bytes) :
    lookupB hf (encode ix).toArray db key = lookupA hf ix key := by
  obtain ⟨db', hdb', hall⟩ := lookup_bytes_agree hf vs declared m kvs ix h hm hvs hnb hn hval
  rw [hdb] at hdb'
  cases hdb'
  exact hall key

/-- **C04 at the byte level: every inserted key is found with exactly its value by `Open` + `Lookup` over the
    sealed file.** -/
theorem build_lookup_bytes (hf : HF) (vs declared : Nat) (m : List (Bytes × Bytes)) (kvs : List KV) (ix : IndexA)
    (h : buildA hf vs declared m kvs = .ok ix)
    (hm : MetaOk m) (hvs : vs ≤ 255 - Generated.hashSize)
    (hnb : numBucketsFor declared < 2^32) (hn : kvs.length < 2^32)
    (hval : ∀ kv ∈ kvs, kv.val.length = vs) :
    ∃ db, openB (encode ix).toArray = .ok db ∧
      ∀ kv ∈ kvs, lookupB hf (encode ix).toArray db kv.key = .found kv.val := by
  obtain ⟨db, hdb, hall⟩ := lookup_bytes_agree hf vs declared m kvs ix h hm hvs hnb hn hval
  exact ⟨db, hdb, fun kv hkv => by rw [hall kv.key]; exact build_lookup hf vs declared m kvs ix h kv hkv⟩

/-- a hit of the byte-level reader is always an inserted pair from the same bucket with the same 24-bit hash -/
theorem lookup_sound_bytes (hf : HF) (vs declared : Nat) (m : List (Bytes × Bytes)) (kvs : List KV) (ix : IndexA)
    (h : buildA hf vs declared m kvs = .ok ix)
    (hm : MetaOk m) (hvs : vs ≤ 255 - Generated.hashSize)
    (hnb : numBucketsFor declared < 2^32) (hn : kvs.length < 2^32)
    (hval : ∀ kv ∈ kvs, kv.val.length = vs) :
    ∃ db, openB (encode ix).toArray = .ok db ∧
      ∀ key v, lookupB hf (encode ix).toArray db key = .found v →
        ∃ kv ∈ kvs, ∃ i b, hf.bucket key ix.numBuckets = some i ∧ hf.bucket kv.key ix.numBuckets = some i ∧
          ix.buckets[i]? = some b ∧ hf.entry b.nonce kv.key = hf.entry b.nonce key ∧ kv.val = v := by
  obtain ⟨db, hdb, hall⟩ := lookup_bytes_agree hf vs declared m kvs ix h hm hvs hnb hn hval
  exact ⟨db, hdb, fun key v hl => lookup_sound hf vs declared m kvs ix h key v (by rw [← hall key]; exact hl)⟩

/-- the byte-level versions for an arbitrary abstract index within the format limits (`CI.EncOk`: uint8 stride,
    uint32 counts and nonces, 24-bit hashes, uint48 offsets; `CI.ValsOk`: values of exactly `valueSize` bytes),
    not only for built ones — used by `build_perm` consumers that compare encodings -/
theorem lookup_bytes_agree_encOk (hf : HF) (ix : IndexA) (ok : EncOk ix) (hv : ValsOk ix) :
    ∃ db, openB (encode ix).toArray = .ok db ∧ ∀ key, lookupB hf (encode ix).toArray db key = lookupA hf ix key :=
  ⟨_, openB_encode ix ok, lookupB_encode hf ix ok hv⟩

/-! non-vacuity of the byte-level theorems: all hypotheses are jointly satisfiable (one key, 9-byte value, two
    metadata pairs, three buckets, toy hash), and the conclusion is then a hit with the inserted value; an absent key
    in another bucket is reported `notFound` by the byte-level reader too. -/
example : ∃ ix db, buildA toyHF 9 25000 [([1], [2, 3]), ([], [7])] [⟨[4,5], [1,2,3,4,5,6,7,8,9]⟩] = .ok ix ∧
    openB (encode ix).toArray = .ok db ∧ db.valueSize = 9 ∧ db.numBuckets = 3 ∧
    lookupB toyHF (encode ix).toArray db [4,5] = .found [1,2,3,4,5,6,7,8,9] := by
  obtain ⟨ix, h⟩ := toy_build 9 (by omega) [([1], [2, 3]), ([], [7])] [4,5] [1,2,3,4,5,6,7,8,9] rfl
  have ok := encOk_of_build toyHF 9 25000 _ _ ix h (by unfold MetaOk; decide) (by decide) (by decide) (by decide)
  have hv := valsOk_of_build toyHF 9 25000 _ _ ix h (fun kv hkv => List.mem_singleton.mp hkv ▸ rfl)
  obtain ⟨f1, f2, _⟩ := buildA_ok toyHF 9 25000 _ _ ix h
  exact ⟨ix, _, h, openB_encode ix ok, f1, f2.trans (by decide), (lookupB_encode toyHF ix ok hv _).trans
    (build_lookup toyHF 9 25000 _ _ ix h ⟨[4,5], [1,2,3,4,5,6,7,8,9]⟩ (List.mem_singleton.mpr rfl))⟩

example : ∃ ix db, buildA toyHF 9 25000 [] [⟨[4,5], [1,2,3,4,5,6,7,8,9]⟩] = .ok ix ∧
    openB (encode ix).toArray = .ok db ∧ lookupB toyHF (encode ix).toArray db [4] = .notFound := by
  obtain ⟨ix, h⟩ := toy_build 9 (by omega) [] [4,5] [1,2,3,4,5,6,7,8,9] rfl
  obtain ⟨db, hdb, hall⟩ := lookup_bytes_agree toyHF 9 25000 _ _ ix h ⟨by decide, by simp⟩ (by decide) (by decide)
    (by decide) (by intro kv hkv; simp only [List.mem_cons, List.mem_nil_iff, or_false] at hkv; subst hkv; rfl)
  refine ⟨ix, db, h, hdb, ?_⟩
  rw [hall]
  obtain ⟨_, f2, _⟩ := buildA_ok toyHF 9 25000 _ _ ix h
  have f3 : ix.numBuckets = 3 := by rw [f2]; decide
  have hlen := (buckets_sealed_of_build toyHF 9 25000 _ _ ix h).1
  have hb : toyHF.bucket [4] ix.numBuckets = some 1 := by rw [f3]; decide
  obtain ⟨b1, hget⟩ : ∃ b1, ix.buckets[1]? = some b1 := ⟨_, List.getElem?_eq_getElem (hlen ▸ f3 ▸ (by decide : 1 < 3))⟩
  cases hl : lookupA toyHF ix [4] with
  | found v =>
    obtain ⟨kv, hkv, i, b, h1, h2, _⟩ := lookup_sound toyHF 9 25000 _ _ ix h _ _ hl
    simp only [List.mem_cons, List.mem_nil_iff, or_false] at hkv
    subst hkv
    rw [f3] at h1 h2
    have e1 : i = 1 := (Option.some.inj h1).symm
    have e2 : i = 2 := (Option.some.inj h2).symm
    omega
  | notFound => rfl
  | hang => simp only [lookupA, hb, hget] at hl; split at hl <;> cases hl
  | err => simp only [lookupA, hb, hget] at hl; split at hl <;> cases hl

/-! ## the byte layer of the legacy formats (`deprecated/compactindex`, `deprecated/compactindex36`)

Same statement for the two formats the server still reads: the index is built with the value width of the format
(`legacyWidth f fileSize`: `intWidth(FileSize)` bytes for the 8-byte-offset format, 36 for the other) and written by
`CI.encodeLegacy` (fixed 32-byte header, no metadata).  Hypotheses: `FileSize` is a `uint64`, bucket and item
counts fit `uint32`, inserted values have exactly the format's width (the 8-byte format stores
`le width offset`, the 36-byte format 36-byte values).  The stride limit and the 48-bit offset limit are derived. -/

/-- legacy `Open` succeeds on the sealed file, and legacy `Lookup` answers, for EVERY key, exactly what the
    abstract reader answers -/
theorem lookup_bytes_agree_legacy (hf : HF) (f : Legacy) (fs declared : Nat) (m : List (Bytes × Bytes))
    (kvs : List KV) (ix : IndexA)
    (h : buildA hf (legacyWidth f fs) declared m kvs = .ok ix)
    (hfs : fs < 2^64) (hnb : numBucketsFor declared < 2^32) (hn : kvs.length < 2^32)
    (hval : ∀ kv ∈ kvs, kv.val.length = legacyWidth f fs) :
    ∃ db, openLegacy f (encodeLegacy f fs ix).toArray = some db ∧ db.fileSize = fs ∧ db.numBuckets = ix.numBuckets ∧
      ∀ key, lookupLegacy hf f (encodeLegacy f fs ix).toArray db key = lookupA hf ix key :=
  ⟨_, openLegacy_encode f fs ix (legOk_of_build hf f fs declared m kvs ix h hfs hnb hn), rfl, rfl,
    lookupLegacy_encode hf f fs ix (legOk_of_build hf f fs declared m kvs ix h hfs hnb hn)
      (valsOk_of_build hf _ declared m kvs ix h hval)⟩

/-- C04 for the legacy files: every inserted key is found with exactly its value by the legacy byte-level reader -/
theorem build_lookup_bytes_legacy (hf : HF) (f : Legacy) (fs declared : Nat) (m : List (Bytes × Bytes))
    (kvs : List KV) (ix : IndexA)
    (h : buildA hf (legacyWidth f fs) declared m kvs = .ok ix)
    (hfs : fs < 2^64) (hnb : numBucketsFor declared < 2^32) (hn : kvs.length < 2^32)
    (hval : ∀ kv ∈ kvs, kv.val.length = legacyWidth f fs) :
    ∃ db, openLegacy f (encodeLegacy f fs ix).toArray = some db ∧
      ∀ kv ∈ kvs, lookupLegacy hf f (encodeLegacy f fs ix).toArray db kv.key = .found kv.val := by
  obtain ⟨db, hdb, _, _, hall⟩ := lookup_bytes_agree_legacy hf f fs declared m kvs ix h hfs hnb hn hval
  exact ⟨db, hdb, fun kv hkv => by rw [hall kv.key]; exact build_lookup hf _ declared m kvs ix h kv hkv⟩

/-- a hit of the legacy byte-level reader is always an inserted pair from the same bucket with the same 24-bit hash -/
theorem lookup_sound_bytes_legacy (hf : HF) (f : Legacy) (fs declared : Nat) (m : List (Bytes × Bytes))
    (kvs : List KV) (ix : IndexA)
    (h : buildA hf (legacyWidth f fs) declared m kvs = .ok ix)
    (hfs : fs < 2^64) (hnb : numBucketsFor declared < 2^32) (hn : kvs.length < 2^32)
    (hval : ∀ kv ∈ kvs, kv.val.length = legacyWidth f fs) :
    ∃ db, openLegacy f (encodeLegacy f fs ix).toArray = some db ∧
      ∀ key v, lookupLegacy hf f (encodeLegacy f fs ix).toArray db key = .found v →
        ∃ kv ∈ kvs, ∃ i b, hf.bucket key ix.numBuckets = some i ∧ hf.bucket kv.key ix.numBuckets = some i ∧
          ix.buckets[i]? = some b ∧ hf.entry b.nonce kv.key = hf.entry b.nonce key ∧ kv.val = v := by
  obtain ⟨db, hdb, _, _, hall⟩ := lookup_bytes_agree_legacy hf f fs declared m kvs ix h hfs hnb hn hval
  exact ⟨db, hdb, fun key v hl => lookup_sound hf _ declared m kvs ix h key v (by rw [← hall key]; exact hl)⟩

/-! non-vacuity, both legacy formats at once: FileSize 70000 (three offset bytes in the 8-byte format), one key whose
    value is the format's encoding of offset 5 -/
example (f : Legacy) : ∃ ix db, buildA toyHF (legacyWidth f 70000) 25000 [] [⟨[4,5], le (legacyWidth f 70000) 5⟩] = .ok ix ∧
    openLegacy f (encodeLegacy f 70000 ix).toArray = some db ∧
    lookupLegacy toyHF f (encodeLegacy f 70000 ix).toArray db [4,5] = .found (le (legacyWidth f 70000) 5) := by
  have hw1 : 0 < legacyWidth f 70000 := by
    cases f with
    | l36 => simp [legacyWidth]
    | l8 =>
      simp only [legacyWidth]
      rw [show (70000:Nat) = 69999 + 1 from rfl, intWidth_succ]; omega
  have hw2 := legacyWidth_le f 70000 (by decide)
  obtain ⟨ix, h⟩ := toy_build (legacyWidth f 70000) ⟨hw1, by omega⟩ [] [4,5] (le (legacyWidth f 70000) 5) rfl
  obtain ⟨db, hdb, hall⟩ := build_lookup_bytes_legacy toyHF f 70000 25000 _ _ ix h (by decide) (by decide) (by simp)
    (by intro kv hkv; simp only [List.mem_cons, List.mem_nil_iff, or_false] at hkv; subst hkv; exact le_length _ _)
  exact ⟨ix, db, h, hdb, hall ⟨[4,5], le (legacyWidth f 70000) 5⟩ (by simp)⟩

end C04
