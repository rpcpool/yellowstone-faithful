import Faithful.Generated.GoFns
import Faithful.Lib.Bucketteer
import Faithful.Ties.Basic
import Faithful.Ties.C10
import Faithful.Ties.BkHas
/-!
C05 / C12 tie (header side of the signature-existence reader): `bucketteer.NewReader` and `readHeader` (`read.go`),
translated from /repo's working tree on every run, over an in-memory reader = `hdrSpec`: the empty prefix table
(`newUint16Layout`: 65 536 entries `math.MaxUint64`), `isReaderEmpty`, `readHeaderSize`, the metadata section read through
the Borsh decoder (`Meta.UnmarshalWithDecoder` leaves the decoder exactly behind the pairs the model's `BK.parseMeta2`
consumes) and the prefix → offset loop.
-/
namespace GoTies.BkOpen
open Go Generated.G GoTies GoTies.C10 GoTies.BkHas

theorem take_len_lt (r : List UInt8) (k : Nat) : ((r.take k).length < k) ↔ (r.length < k) := by
  rw [List.length_take]; omega

/-- `C10.unmarshal_loop` against `BK.parseMeta2`, keeping the decoder's position.  Its `match` is the matcher
    (`unmarshal_loop2.match_1`) that the statement of `unmarshalDec_eq` mentions: renaming this theorem renames it there. -/
theorem unmarshal_loop2 (fuel0 : Nat) (n : UInt8) (d : List UInt8) : ∀ (c fuel i p : Nat) (m : Indexmeta_Meta),
    i + c = n.toNat → c < fuel →
    match BK.parseMeta2 c (d.drop p) with
    | some (l, rest) => ∃ p', d.drop p' = rest ∧ metaUnmarshalDec.loop1 fuel0 n fuel ⟨d, p⟩ (i : Int) m
        = .ok (.done (⟨d, p'⟩, (n.toNat : Int), { m with KeyVals := m.KeyVals ++ l.map mkKV }))
    | none => ∃ t, metaUnmarshalDec.loop1 fuel0 n fuel ⟨d, p⟩ (i : Int) m = .error (.err t) := by
  intro c
  induction c with
  | zero =>
    intro fuel i p m hi hf
    obtain ⟨f, rfl⟩ : ∃ f, fuel = f + 1 := ⟨fuel - 1, by omega⟩
    obtain rfl : i = n.toNat := by omega
    rw [unmarshal_step, if_pos (by rw [decide_eq_false (Int.lt_irrefl _)]; rfl)]
    exact ⟨p, rfl, by rw [List.map_nil, List.append_nil]; rfl⟩
  | succ c ih =>
    intro fuel i p m hi hf
    obtain ⟨f, rfl⟩ : ∃ f, fuel = f + 1 := ⟨fuel - 1, by omega⟩
    rw [unmarshal_step, if_neg (by rw [decide_eq_true (Int.ofNat_lt.mpr (by omega))]; nofun)]
    cases h1 : d.drop p with
    | nil => exact readField_nil d p _ h1
    | cons kl r =>
      simp only [BK.parseMeta2, take_len_lt]
      obtain ⟨hshort, hfull⟩ := readField_cons d p
        (fun a => readField a.1 fun b => metaUnmarshalDec.loop1 fuel0 n f b.1 (Go.wrap64 ((i : Int) + 1))
          { m with KeyVals := m.KeyVals ++ [{ Key := a.2, Value := b.2 }] }) h1
      by_cases hk : r.length < kl.toNat
      · rw [if_pos hk]; exact hshort hk
      obtain ⟨e1, hd1⟩ := hfull hk
      rw [if_neg hk, e1]
      dsimp only
      cases h2 : r.drop kl.toNat with
      | nil => exact readField_nil d _ _ (hd1.trans h2)
      | cons vl r2 =>
        dsimp only
        obtain ⟨hshort2, hfull2⟩ := readField_cons d (p + 1 + kl.toNat)
          (fun b => metaUnmarshalDec.loop1 fuel0 n f b.1 (Go.wrap64 ((i : Int) + 1))
            { m with KeyVals := m.KeyVals ++ [{ Key := r.take kl.toNat, Value := b.2 }] }) (hd1.trans h2)
        by_cases hv : r2.length < vl.toNat
        · rw [if_pos hv]; exact hshort2 hv
        obtain ⟨e2, hd2⟩ := hfull2 hv
        rw [if_neg hv, e2, wrap64_natCast_succ i (by have := n.toNat_lt; omega)]
        have := ih f (i + 1) (p + 1 + kl.toNat + 1 + vl.toNat)
          { m with KeyVals := m.KeyVals ++ [{ Key := r.take kl.toNat, Value := r2.take vl.toNat }] } (by omega) (by omega)
        rw [hd2] at this
        cases h3 : BK.parseMeta2 c (r2.drop vl.toNat) with
        | none => rw [h3] at this; exact this
        | some q =>
          obtain ⟨l, rest⟩ := q
          rw [h3] at this
          obtain ⟨p', hp', hr'⟩ := this
          exact ⟨p', hp', by rw [hr']; simp only [List.map_cons, mkKV, List.append_assoc, List.cons_append, List.nil_append]⟩

/-- `Meta.UnmarshalWithDecoder(decoder)` on an empty `Meta` from position `p` of the decoder's data: the pairs of the
    model's `parseMeta .v2` and the decoder at the unread rest, or an error exactly when the model rejects -/
theorem unmarshalDec_eq (fuel : Nat) (hf : 256 < fuel) (d : List UInt8) (p : Nat) :
    match BK.parseMeta .v2 (d.drop p) with
    | some (l, rest) => ∃ p', d.drop p' = rest ∧
        metaUnmarshalDec fuel Indexmeta_Meta.zero ⟨d, p⟩ = .ok (ofKvs l, ⟨d, p'⟩)
    | none => ∃ t, metaUnmarshalDec fuel Indexmeta_Meta.zero ⟨d, p⟩ = .error (.err t) := by
  unfold BK.parseMeta metaUnmarshalDec
  simp only [readByte_eq]
  cases h1 : d.drop p with
  | nil => simp only [bind_error]; exact ⟨_, rfl⟩
  | cons c r =>
    have hr : d.drop (p + 1) = r := by
      have := congrArg List.tail h1; simpa [List.tail_drop] using this
    simp only [bind_ok]
    have h255 : ¬ (c > 255) := by
      rw [gt_iff_lt, UInt8.lt_iff_toNat_lt]; have := c.toNat_lt; simp; omega
    simp only [h255, decide_false, Bool.false_eq_true, if_false]
    have hloop := unmarshal_loop2 fuel c d c.toNat fuel 0 (p + 1) Indexmeta_Meta.zero (by omega) (by have := c.toNat_lt; omega)
    rw [hr] at hloop
    simp only [Int.natCast_zero] at hloop
    cases hp : BK.parseMeta2 c.toNat r with
    | none =>
      rw [hp] at hloop
      obtain ⟨t, ht⟩ := hloop
      exact ⟨t, by simp only [ht, bind_error]⟩
    | some q =>
      obtain ⟨l, rest⟩ := q
      rw [hp] at hloop
      obtain ⟨p', hp', hr'⟩ := hloop
      refine ⟨p', hp', ?_⟩
      simp only [hr', bind_ok, pure_eq_ok, ofKvs_eq]
      rfl

def maxU : UInt64 := 18446744073709551615

/-- the fill loop of `newUint16Layout` and of `newUint16LayoutPointer` -/
theorem fill_loop (f : Nat → Int → List UInt64 → M (LoopRes (List UInt64) (Int × List UInt64)))
    (hf : ∀ fuel i layout, f (fuel + 1) i layout =
      if (!(decide (i ≤ (65535 : Int)))) = true then pure (LoopRes.done (i, layout)) else
      Go.setIdx layout i (18446744073709551615 : UInt64) >>= fun t1 => f fuel (Go.wrap64 (i + 1)) t1) :
    ∀ (c fuel k : Nat), k + c = 65536 → c < fuel →
      f fuel (k : Int) (List.replicate k maxU ++ List.replicate c 0) = .ok (LoopRes.done ((65536 : Int), List.replicate 65536 maxU)) := by
  intro c
  induction c with
  | zero =>
    intro fuel k hk hfu
    obtain ⟨fu, rfl⟩ : ∃ fu, fuel = fu + 1 := ⟨fuel - 1, by omega⟩
    obtain rfl : k = 65536 := by omega
    rw [hf, if_pos (by decide), List.replicate_zero, List.append_nil]
    rfl
  | succ c ih =>
    intro fuel k hk hfu
    obtain ⟨fu, rfl⟩ : ∃ fu, fuel = fu + 1 := ⟨fuel - 1, by omega⟩
    have hle : ¬ ((!(decide ((k : Int) ≤ 65535))) = true) := by
      rw [Bool.not_eq_true', decide_eq_false_iff_not, Decidable.not_not]; omega
    have hset : Go.setIdx (List.replicate k maxU ++ List.replicate (c + 1) 0) (k : Int) (18446744073709551615 : UInt64)
        = .ok (List.replicate (k + 1) maxU ++ List.replicate c 0) := by
      unfold Go.setIdx
      rw [if_pos (by rw [List.length_append, List.length_replicate, List.length_replicate]; omega), Int.toNat_natCast,
        List.set_append_right _ _ (by rw [List.length_replicate]; omega), List.length_replicate, Nat.sub_self,
        List.replicate_succ, List.set_cons_zero, List.replicate_succ', List.append_assoc]
      rfl
    rw [hf, if_neg hle, hset, bind_ok, Go.wrap64_id (by omega) (by omega)]
    exact ih fu (k + 1) (by omega) (by omega)

theorem newLayout_eq (fuel : Nat) (hf : 65536 < fuel) : bkNewLayout fuel = .ok (List.replicate 65536 maxU) := by
  have hm : bkNewLayout fuel = (bkNewLayout.loop1 fuel fuel 0 (List.replicate 65536 0) >>= fun r =>
      match r with
      | LoopRes.ret r2 => pure r2
      | LoopRes.done (_, s4) => pure s4) := rfl
  rw [hm, show bkNewLayout.loop1 fuel fuel 0 (List.replicate 65536 0) = _ from
    fill_loop (bkNewLayout.loop1 fuel) (fun _ _ _ => rfl) 65536 fuel 0 rfl hf]
  rfl

theorem newLayoutPtr_eq (fuel : Nat) (hf : 65536 < fuel) : bkNewLayoutPtr fuel = .ok (List.replicate 65536 maxU) := by
  have hm : bkNewLayoutPtr fuel = (bkNewLayoutPtr.loop1 fuel fuel 0 (List.replicate 65536 0) >>= fun r =>
      match r with
      | LoopRes.ret r2 => pure r2
      | LoopRes.done (_, s4) => pure s4) := rfl
  rw [hm, show bkNewLayoutPtr.loop1 fuel fuel 0 (List.replicate 65536 0) = _ from
    fill_loop (bkNewLayoutPtr.loop1 fuel) (fun _ _ _ => rfl) 65536 fuel 0 rfl hf]
  rfl

theorem tableRep_set (t : Array (Option Nat)) (T : List UInt64) (k v : Nat) (hT : TableRep t T) (hs : t.size = 65536)
    (hk : k < 65536) (hv : v < 2 ^ 64) :
    TableRep (t.setIfInBounds k (some v)) (T.set k (UInt64.ofNat v)) ∧ (t.setIfInBounds k (some v)).size = 65536 := by
  obtain ⟨hl, hrep⟩ := hT
  refine ⟨⟨by rw [List.length_set]; exact hl, ?_⟩, by simp [hs]⟩
  intro q hq
  by_cases hqk : q = k
  · subst hqk
    have h1 : (t.setIfInBounds q (some v)).getD q none = some v := by
      rw [Array.getD_eq_getD_getElem?, Array.getElem?_setIfInBounds_self_of_lt (by omega)]; rfl
    have h2 : (T.set q (UInt64.ofNat v)).getD q 0 = UInt64.ofNat v := by
      rw [List.getD_eq_getElem?_getD, List.getElem?_set_self (by omega)]; rfl
    rw [h1]
    exact ⟨hv, h2⟩
  · have h1 : (t.setIfInBounds k (some v)).getD q none = t.getD q none := by
      rw [Array.getD_eq_getD_getElem?, Array.getD_eq_getD_getElem?, Array.getElem?_setIfInBounds_ne (by omega)]
    have h2 : (T.set k (UInt64.ofNat v)).getD q 0 = T.getD q 0 := by
      rw [List.getD_eq_getElem?_getD, List.getD_eq_getElem?_getD, List.getElem?_set_ne (by omega)]
    rw [h1, h2]
    exact hrep q hq

/-- the error result every failing branch of `readHeader` returns -/
def hdrErr (e : Go.Error) : (List UInt64 × Indexmeta_Meta × Int × Go.Error) :=
  (List.replicate 65536 (0 : UInt64), Indexmeta_Meta.zero, (0 : Int), e)

theorem tloop_succ (fuel0 : Nat) (np : UInt64) (f : Nat) (dec : Go.BytesReader) (i : UInt64) (T : List UInt64) :
    bkReadHeader.loop1 fuel0 np (f + 1) dec i T =
      (if (!(decide (i < np))) = true then pure (LoopRes.done (dec, i, T)) else
       Go.catchErr (Go.readFull dec (Go.len (List.replicate 2 (0 : UInt8)))) (dec, List.replicate 2 (0 : UInt8)) >>= fun t10 =>
       if (t10.2 != Go.Error.nil) = true then
         pure (LoopRes.ret (hdrErr (Go.Error.wrap "failed to read prefixes[%d]: %w" t10.2))) else
       Go.catchErr (Go.readU64LE t10.1.1) (t10.1.1, (0 : UInt64)) >>= fun t11 =>
       if (t11.2 != Go.Error.nil) = true then
         pure (LoopRes.ret (hdrErr (Go.Error.wrap "failed to read offsets[%d]: %w" t11.2))) else
       bkPrefixToUint16 t10.1.2 >>= fun t13 =>
       Go.setIdx T (t13.toNat : Int) t11.1.2 >>= fun t12 =>
       bkReadHeader.loop1 fuel0 np f t11.1.1 (i + 1) t12) := rfl

theorem readU64_ok (d : List UInt8) (p : Nat) (h : ¬ (d.drop p).length < 8) :
    Go.readU64LE ⟨d, p⟩ = .ok (⟨d, p + 8⟩, UInt64.ofNat (B.unle ((d.drop p).take 8))) := by
  unfold Go.readU64LE
  rw [show Go.readFull ⟨d, p⟩ 8 = _ from readFull_ok d p 8 h, bind_ok, leDecode_eq_unle]
  rfl

theorem readU64_short (d : List UInt8) (p : Nat) (h : (d.drop p).length < 8) : ∃ t, Go.readU64LE ⟨d, p⟩ = .error (.err t) := by
  unfold Go.readU64LE
  obtain ⟨t, ht⟩ := readFull_gen d p 8 h
  have ht' : Go.readFull ⟨d, p⟩ 8 = .error (.err t) := ht
  rw [ht']
  exact ⟨t, rfl⟩

/-- one iteration below the count: an error if fewer than ten bytes are left, else `setIdx` and on behind the entry -/
theorem tloop_iter (fuel0 : Nat) (np : UInt64) (f : Nat) (d : List UInt8) (p : Nat) (i : UInt64) (T : List UInt64)
    (hi : i < np) :
    if (d.drop p).length < 10 then
      ∃ e, e ≠ Go.Error.nil ∧ bkReadHeader.loop1 fuel0 np (f + 1) ⟨d, p⟩ i T = .ok (LoopRes.ret (hdrErr e))
    else bkReadHeader.loop1 fuel0 np (f + 1) ⟨d, p⟩ i T =
      Go.setIdx T (BK.prefixOf (d.drop p) : Int) (UInt64.ofNat (B.unle ((d.drop (p + 2)).take 8))) >>= fun T' =>
        bkReadHeader.loop1 fuel0 np f ⟨d, p + 2 + 8⟩ (i + 1) T' := by
  have hlt : ¬ ((!(decide (i < np))) = true) := by simpa using hi
  rw [tloop_succ, if_neg hlt, len_replicate]
  split
  · next hs =>
    by_cases h2 : (d.drop p).length < 2
    · obtain ⟨tt, ht⟩ := readFull_gen d p 2 h2
      rw [guard_err _ _ _ ht]
      exact ⟨_, (by intro h; cases h), rfl⟩
    · obtain ⟨tt, ht⟩ := readU64_short d (p + 2) (by rw [List.length_drop] at hs h2 ⊢; omega)
      rw [guard_ok _ _ _ (readFull_ok d p 2 h2)]
      dsimp only
      rw [guard_err _ _ _ ht]
      exact ⟨_, (by intro h; cases h), rfl⟩
  · next hs =>
    have h2 : ¬ (d.drop p).length < 2 := by omega
    rw [guard_ok _ _ _ (readFull_ok d p 2 h2)]
    dsimp only
    rw [guard_ok _ _ _ (readU64_ok d (p + 2) (by rw [List.length_drop] at hs ⊢; omega))]
    dsimp only
    obtain ⟨b0, b1, rest, hd⟩ : ∃ b0 b1 rest, d.drop p = b0 :: b1 :: rest := by
      match hdp : d.drop p with
      | [] => rw [hdp] at h2; simp at h2
      | [_] => rw [hdp] at h2; simp at h2
      | b0 :: b1 :: rest => exact ⟨b0, b1, rest, rfl⟩
    rw [hd, show (b0 :: b1 :: rest).take 2 = [b0, b1] from rfl, C05.gen_bkPrefixToUint16_eq_model, bind_ok,
      UInt16.toNat_ofNat', Nat.mod_eq_of_lt (show BK.prefixOf [b0, b1] < 2 ^ 16 from BK.prefixOf_lt _)]
    rfl

/-- the table loop of `readHeader` from position `p` with `c` pairs still to read = the model's `parseTable` -/
theorem table_loop (fuel0 : Nat) (np : UInt64) (d : List UInt8) : ∀ (c fuel i p : Nat) (t : Array (Option Nat)) (T : List UInt64),
    i + c = np.toNat → (d.length - p) / 10 + 1 < fuel → TableRep t T → t.size = 65536 →
    match BK.parseTable c (d.drop p) t with
    | some t' => ∃ p' T', TableRep t' T' ∧
        bkReadHeader.loop1 fuel0 np fuel ⟨d, p⟩ (UInt64.ofNat i) T = .ok (LoopRes.done (⟨d, p'⟩, np, T'))
    | none => ∃ e, e ≠ Go.Error.nil ∧
        bkReadHeader.loop1 fuel0 np fuel ⟨d, p⟩ (UInt64.ofNat i) T = .ok (LoopRes.ret (hdrErr e)) := by
  intro c
  induction c with
  | zero =>
    intro fuel i p t T hi hf hT hs
    obtain ⟨f, rfl⟩ : ∃ f, fuel = f + 1 := ⟨fuel - 1, by omega⟩
    obtain rfl : UInt64.ofNat i = np := UInt64.toNat_inj.mp (by rw [u64_toNat i (by have := np.toNat_lt; omega)]; omega)
    rw [tloop_succ, if_pos (by simp)]
    exact ⟨p, T, hT, rfl⟩
  | succ c ih =>
    intro fuel i p t T hi hf hT hs
    obtain ⟨f, rfl⟩ : ∃ f, fuel = f + 1 := ⟨fuel - 1, by omega⟩
    have hnp := np.toNat_lt
    have hin : (UInt64.ofNat i).toNat = i := u64_toNat i (by omega)
    have hi1 : UInt64.ofNat i + 1 = UInt64.ofNat (i + 1) := UInt64.toNat_inj.mp (by
      rw [UInt64.toNat_add, hin, u64_toNat (i + 1) (by omega)]; exact Nat.mod_eq_of_lt (show i + 1 < 2 ^ 64 by omega))
    have hit := tloop_iter fuel0 np f d p (UInt64.ofNat i) T (by rw [UInt64.lt_iff_toNat_lt, hin]; omega)
    rw [BK.parseTable_succ]
    by_cases hshort : (d.drop p).length < 10
    · rw [if_pos hshort] at hit ⊢; exact hit
    · rw [if_neg hshort] at hit ⊢
      have hpk : BK.prefixOf (d.drop p) < 65536 := BK.prefixOf_lt _
      have hv64 := unle8_lt (d.drop (p + 2))
      rw [hit, List.drop_drop, List.drop_drop, setIdx_natCast T _ _ (by rw [hT.1]; exact hpk), bind_ok, hi1]
      obtain ⟨hT', hs'⟩ := tableRep_set t T _ _ hT hs hpk hv64
      rw [List.length_drop] at hshort
      exact ih f (i + 1) (p + 2 + 8) _ _ (by omega) (by omega) hT' hs'

def magicL : List UInt8 := [98, 117, 99, 107, 101, 116, 116, 101]

theorem readHeaderSize_eq (l : List UInt8) :
    bkReadHeaderSize (memRd l) =
      if 4 ≤ l.length then .ok (((B.unle (l.take 4) : Nat) : Int), Go.Error.nil) else .ok (0, Go.Error.eof) := by
  have hm : bkReadHeaderSize (memRd l) =
      (Go.makeOf (0 : UInt8) 4 >>= fun t1 =>
       let t2 := memRd l (Go.len t1) 0
       if (t2.2 != Go.Error.nil) = true then pure ((0 : Int), t2.2)
       else Go.leU32 (t2.1 ++ t1.drop t2.1.length) >>= fun t3 => pure ((t3.toNat : Int), Go.Error.nil)) := rfl
  have hmk : Go.makeOf (0 : UInt8) (4 : Int) = .ok (List.replicate 4 0) := makeOf_natCast 0 4 (by omega)
  rw [hm, hmk, bind_ok]
  simp only [len_replicate]
  by_cases h : 4 ≤ l.length
  · have hlen : (l.take 4).length = 4 := by rw [List.length_take]; omega
    rw [if_pos h, memRd0_ok l 4 h (by omega)]
    simp only [bne_self_eq_false, Bool.false_eq_true, if_false]
    rw [pad_full _ 4 0 hlen, leU32_eq _ hlen, bind_ok, u32_toNat _ (unle4_lt l)]
    rfl
  · rw [if_neg h]
    have he := memRd0_eof l 4 (by omega)
    simp only [he]
    rfl

/-- `readHeader` over the file bytes: the prefix table, the metadata and the total header size, or `none` = an error -/
def hdrSpec (l : List UInt8) : Option (Array (Option Nat) × BK.MetaKVs × Nat) :=
  if l.length < 4 then none else
  if B.unle (l.take 4) > 785945 then none else
  if l.length < 4 + B.unle (l.take 4) then none else
  if ((l.drop 4).take (B.unle (l.take 4))).length < 8 then none else
  if ((l.drop 4).take (B.unle (l.take 4))).take 8 ≠ magicL then none else
  if (((l.drop 4).take (B.unle (l.take 4))).drop 8).length < 8 then none else
  if B.unle ((((l.drop 4).take (B.unle (l.take 4))).drop 8).take 8) ≠ 2 then none else
  match BK.parseMeta .v2 (((l.drop 4).take (B.unle (l.take 4))).drop 16) with
  | none => none
  | some (m, r2) =>
    if r2.length < 8 then none else
    match BK.parseTable (B.unle (r2.take 8)) (r2.drop 8) (Array.replicate 65536 none) with
    | none => none
    | some t => some (t, m, B.unle (l.take 4) + 4)

theorem tableRep_init : TableRep (Array.replicate 65536 none) (List.replicate 65536 maxU) := by
  refine ⟨List.length_replicate, ?_⟩
  intro p hp
  have h1 : (Array.replicate 65536 (none : Option Nat)).getD p none = none := by
    rw [Array.getD_eq_getD_getElem?, Array.getElem?_replicate]
    split <;> rfl
  rw [h1]
  show (List.replicate 65536 maxU).getD p 0 = 18446744073709551615
  rw [List.getD_eq_getElem?_getD, List.getElem?_replicate, if_pos hp]
  rfl

theorem memRd_zero_fst (c : List UInt8) (k : Int) : (memRd c 0 k).1 = [] := by
  unfold memRd
  split
  · rfl
  · split
    · rfl
    · simp

theorem wrap_ne_nil (tag : String) (e : Go.Error) : Go.Error.wrap tag e ≠ Go.Error.nil := by
  cases e <;> (intro h; cases h)

/-! `hdrSpec` and the translated `readHeader`, cut at the same two places: behind the header bytes, behind the metadata -/

def hdrTable (hs : Nat) (m : BK.MetaKVs) (r2 : List UInt8) : Option (Array (Option Nat) × BK.MetaKVs × Nat) :=
  if r2.length < 8 then none else
  match BK.parseTable (B.unle (r2.take 8)) (r2.drop 8) (Array.replicate 65536 none) with
  | none => none
  | some t => some (t, m, hs + 4)

def hdrBody (hs : Nat) (buf : List UInt8) : Option (Array (Option Nat) × BK.MetaKVs × Nat) :=
  if buf.length < 8 then none else
  if buf.take 8 ≠ magicL then none else
  if (buf.drop 8).length < 8 then none else
  if B.unle ((buf.drop 8).take 8) ≠ 2 then none else
  match BK.parseMeta .v2 (buf.drop 16) with
  | none => none
  | some (m, r2) => hdrTable hs m r2

theorem hdrSpec_eq (l : List UInt8) :
    hdrSpec l =
      if l.length < 4 then none else
      if B.unle (l.take 4) > 785945 then none else
      if l.length < 4 + B.unle (l.take 4) then none else
      hdrBody (B.unle (l.take 4)) ((l.drop 4).take (B.unle (l.take 4))) := rfl

abbrev HdrRes := List UInt64 × Indexmeta_Meta × Int × Go.Error

def hdrTableM (fuel : Nat) (hsz : Int) (meta_ : Indexmeta_Meta) (dec : Go.BytesReader) : M HdrRes :=
  Go.catchErr (Go.readU64LE dec) (dec, (0 : UInt64)) >>= fun t8 =>
  if (t8.2 != Go.Error.nil) = true then pure (hdrErr (Go.Error.wrap "failed to read numPrefixes: %w" t8.2)) else
  bkNewLayout fuel >>= fun t9 =>
  bkReadHeader.loop1 fuel t8.1.2 fuel t8.1.1 0 t9 >>= fun r =>
  match r with
  | LoopRes.ret r14 => pure r14
  | LoopRes.done (_, _, s17) => pure (s17, meta_, Go.wrap64 (hsz + 4), t8.2)

def hdrBodyM (fuel : Nat) (hsz : Int) (buf : List UInt8) : M HdrRes :=
  Go.makeOf (0 : UInt8) (Go.len magicL) >>= fun t4 =>
  Go.catchErr (Go.readFull ⟨buf, 0⟩ (Go.len t4)) (⟨buf, 0⟩, t4) >>= fun t5 =>
  if (t5.2 != Go.Error.nil) = true then pure (hdrErr (Go.Error.wrap "failed to read magic: %w" t5.2)) else
  if (!(t5.1.2 == magicL)) = true then pure (hdrErr (Go.Error.other "invalid magic: %x")) else
  Go.catchErr (Go.readU64LE t5.1.1) (t5.1.1, (0 : UInt64)) >>= fun t6 =>
  if (t6.2 != Go.Error.nil) = true then pure (hdrErr (Go.Error.wrap "failed to read version: %w" t6.2)) else
  if (t6.1.2 != 2) = true then pure (hdrErr (Go.Error.other "expected version %d, got %d")) else
  Go.catchErr (metaUnmarshalDec fuel Indexmeta_Meta.zero t6.1.1) (Indexmeta_Meta.zero, t6.1.1) >>= fun t7 =>
  if (t7.2 != Go.Error.nil) = true then pure (hdrErr (Go.Error.wrap "failed to unmarshal metadata: %w" t7.2)) else
  hdrTableM fuel hsz t7.1.1 t7.1.2

def readHeaderM (fuel : Nat) (s : Go.ReaderAt) : M HdrRes :=
  bkReadHeaderSize s >>= fun t1 =>
  if (t1.2 != Go.Error.nil) = true then pure (hdrErr (Go.Error.wrap "failed to read header size: %w" t1.2)) else
  if decide (t1.1 > 785945) = true then pure (hdrErr (Go.Error.other "invalid header size: %d")) else
  Go.makeOf (0 : UInt8) t1.1 >>= fun t2 =>
  let t3 := s (Go.len t2) 4
  if (t3.2 != Go.Error.nil) = true then pure (hdrErr (Go.Error.wrap "failed to read header bytes: %w" t3.2)) else
  hdrBodyM fuel t1.1 (t3.1 ++ t2.drop t3.1.length)

theorem readHeader_unfold (fuel : Nat) (s : Go.ReaderAt) : bkReadHeader fuel s = readHeaderM fuel s := rfl

/-- as `BkHas.Verdict`, for `hdrSpec` and `readHeader` (matchers of `gen_bkReadHeader_eq_spec`, `gen_bkNewReader_eq_spec`) -/
def HdrVerdict (o : Option (Array (Option Nat) × BK.MetaKVs × Nat)) (X : M HdrRes) : Prop :=
  Option.casesOn (motive := fun _ => Prop) o (∃ e, e ≠ Go.Error.nil ∧ X = .ok (hdrErr e))
    (fun q => ∃ T, TableRep q.1 T ∧ X = .ok (T, ofKvs q.2.1, (q.2.2 : Int), Go.Error.nil))

theorem hdrTable_eq (fuel : Nat) (hf : 800000 < fuel) (hs : Nat) (hhs : hs < 2 ^ 32) (m : BK.MetaKVs) (buf : List UInt8)
    (p : Nat) (hbl : buf.length < 800000) :
    HdrVerdict (hdrTable hs m (buf.drop p)) (hdrTableM fuel (hs : Int) (ofKvs m) ⟨buf, p⟩) := by
  unfold hdrTable hdrTableM
  by_cases hn8 : (buf.drop p).length < 8
  · obtain ⟨tt, ht⟩ := readU64_short buf p hn8
    rw [if_pos hn8, guard_err _ _ _ ht]
    exact ⟨_, wrap_ne_nil _ _, rfl⟩
  · rw [if_neg hn8, guard_ok _ _ _ (readU64_ok buf p hn8), newLayout_eq fuel (by omega), bind_ok]
    dsimp only
    have hnp64 := unle8_lt (buf.drop p)
    generalize B.unle ((buf.drop p).take 8) = np at hnp64 ⊢
    have hnpn : (UInt64.ofNat np).toNat = np := u64_toNat np hnp64
    have hloop := table_loop fuel (UInt64.ofNat np) buf np fuel 0 (p + 8) (Array.replicate 65536 none)
      (List.replicate 65536 maxU) (by rw [hnpn]; omega) (by omega) tableRep_init Array.size_replicate
    rw [← List.drop_drop] at hloop
    cases hpt : BK.parseTable np ((buf.drop p).drop 8) (Array.replicate 65536 none) with
    | none =>
      rw [hpt] at hloop
      obtain ⟨e, hne, he⟩ := hloop
      rw [show (0 : UInt64) = UInt64.ofNat 0 from rfl, he, bind_ok]
      exact ⟨e, hne, rfl⟩
    | some t =>
      rw [hpt] at hloop
      obtain ⟨p2, T, hT, he⟩ := hloop
      rw [show (0 : UInt64) = UInt64.ofNat 0 from rfl, he, bind_ok]
      refine ⟨T, hT, ?_⟩
      dsimp only
      rw [Go.wrap64_id (by omega) (by omega)]
      rfl

theorem hdrBody_eq (fuel : Nat) (hf : 800000 < fuel) (hs : Nat) (hhs : hs < 2 ^ 32) (buf : List UInt8)
    (hbl : buf.length < 800000) : HdrVerdict (hdrBody hs buf) (hdrBodyM fuel (hs : Int) buf) := by
  unfold hdrBody hdrBodyM
  rw [show Go.makeOf (0 : UInt8) (Go.len magicL) = .ok (List.replicate 8 0) from rfl, bind_ok, len_replicate]
  by_cases hm8 : buf.length < 8
  · obtain ⟨tt, ht⟩ := readFull_gen buf 0 8 hm8
    rw [if_pos hm8, guard_err _ _ _ ht]
    exact ⟨_, wrap_ne_nil _ _, rfl⟩
  · rw [if_neg hm8, guard_ok _ _ _ (readFull_ok buf 0 8 hm8)]
    simp only [List.drop_zero, Nat.zero_add]
    by_cases hmag : buf.take 8 ≠ magicL
    · rw [if_pos hmag, if_pos (show (!(buf.take 8 == magicL)) = true by simpa using hmag)]
      exact ⟨_, (by intro h; cases h), rfl⟩
    · rw [if_neg hmag, if_neg (show ¬ (!(buf.take 8 == magicL)) = true by simpa using hmag)]
      by_cases hv8 : (buf.drop 8).length < 8
      · obtain ⟨tt, ht⟩ := readU64_short buf 8 hv8
        rw [if_pos hv8, guard_err _ _ _ ht]
        exact ⟨_, wrap_ne_nil _ _, rfl⟩
      · rw [if_neg hv8, guard_ok _ _ _ (readU64_ok buf 8 hv8)]
        dsimp only
        have hv64 := unle8_lt (buf.drop 8)
        generalize B.unle ((buf.drop 8).take 8) = ver at hv64 ⊢
        have hvn : (UInt64.ofNat ver != 2) = true ↔ ver ≠ 2 := by
          rw [bne_iff_ne, Ne, ← UInt64.toNat_inj, u64_toNat ver hv64]; rfl
        by_cases hver : ver ≠ 2
        · rw [if_pos hver, if_pos (hvn.mpr hver)]
          exact ⟨_, (by intro h; cases h), rfl⟩
        · rw [if_neg hver, if_neg (fun h => hver (hvn.mp h))]
          have hmeta := unmarshalDec_eq fuel (by omega) buf (8 + 8)
          rw [show (8 : Nat) + 8 = 16 from rfl] at hmeta
          cases hpm : BK.parseMeta .v2 (buf.drop 16) with
          | none =>
            rw [hpm] at hmeta
            obtain ⟨tt, ht⟩ := hmeta
            dsimp only
            rw [guard_err _ _ _ ht]
            exact ⟨_, wrap_ne_nil _ _, rfl⟩
          | some q =>
            obtain ⟨m, r2⟩ := q
            rw [hpm] at hmeta
            obtain ⟨p', hp', hmd⟩ := hmeta
            dsimp only
            rw [guard_ok _ _ _ hmd, ← hp']
            exact hdrTable_eq fuel hf hs hhs m buf p' hbl

/-- **tie**: `readHeader(reader)`, as translated from the source, over an in-memory reader = `hdrSpec` -/
theorem gen_bkReadHeader_eq_spec (l : List UInt8) (fuel : Nat) (hf : 800000 < fuel) (hl : l.length < 2 ^ 62) :
    match hdrSpec l with
    | some (t, m, hsz) => ∃ T, TableRep t T ∧ bkReadHeader fuel (memRd l) = .ok (T, ofKvs m, (hsz : Int), Go.Error.nil)
    | none => ∃ e, e ≠ Go.Error.nil ∧ bkReadHeader fuel (memRd l) = .ok (hdrErr e) := by
  suffices h : HdrVerdict (hdrSpec l) (bkReadHeader fuel (memRd l)) by
    generalize hdrSpec l = o at h ⊢
    cases o with
    | none => exact h
    | some q => obtain ⟨t, m, hsz⟩ := q; exact h
  rw [readHeader_unfold, hdrSpec_eq]
  unfold readHeaderM
  rw [readHeaderSize_eq]
  have hnil : ¬ ((Go.Error.nil != Go.Error.nil) = true) := by simp
  by_cases h4 : l.length < 4
  · rw [if_pos h4, if_neg (show ¬ 4 ≤ l.length by omega), bind_ok, if_pos (by decide)]
    exact ⟨_, (by intro h; cases h), rfl⟩
  · rw [if_neg h4, if_pos (show 4 ≤ l.length by omega), bind_ok, if_neg hnil]
    have h32 := unle4_lt l
    generalize B.unle (l.take 4) = hs at h32 ⊢
    by_cases hbig : hs > 785945
    · rw [if_pos hbig, if_pos (show decide (((hs : Nat) : Int) > 785945) = true by rw [decide_eq_true_eq]; omega)]
      exact ⟨_, (by intro h; cases h), rfl⟩
    · rw [if_neg hbig, if_neg (show ¬ decide (((hs : Nat) : Int) > 785945) = true by rw [decide_eq_true_eq]; omega),
        makeOf_natCast 0 hs (by omega), bind_ok]
      dsimp only
      rw [len_replicate]
      by_cases hz : hs = 0
      · -- an empty header: the model fails at the magic; the code at the read or at the magic
        subst hz
        rw [if_neg (show ¬ l.length < 4 + 0 by omega)]
        by_cases he : ((memRd l ((0 : Nat) : Int) 4).2 != Go.Error.nil) = true
        · rw [if_pos he]
          exact ⟨_, wrap_ne_nil _ _, rfl⟩
        · have hfst : (memRd l ((0 : Nat) : Int) 4).1 = [] := memRd_zero_fst l 4
          rw [if_neg he, hfst]
          exact hdrBody_eq fuel hf 0 (by omega) [] (by simp)
      · have hpos : 0 < hs := by omega
        by_cases hshort : l.length < 4 + hs
        · have he : (memRd l (hs : Int) 4).2 = Go.Error.eof := (memRd_short l hs 4 (by omega) hpos).1
          rw [if_pos hshort, if_pos (show ((memRd l (hs : Int) 4).2 != Go.Error.nil) = true by rw [he]; decide)]
          exact ⟨_, wrap_ne_nil _ _, rfl⟩
        · have hbl : ((l.drop 4).take hs).length = hs := by rw [List.length_take, List.length_drop]; omega
          rw [if_neg hshort, (show memRd l (hs : Int) 4 = _ from memRd_ok l hs 4 (by omega) hpos)]
          dsimp only
          rw [if_neg hnil, pad_full _ hs 0 hbl]
          exact hdrBody_eq fuel hf hs h32 _ (by omega)

theorem isReaderEmpty_eq (l : List UInt8) :
    bkIsReaderEmpty (memRd l) = .ok (decide (l = []), Go.Error.nil) := by
  have hm : bkIsReaderEmpty (memRd l) =
      (if false = true then pure (false, Go.Error.other "reader is nil") else
       Go.makeOf (0 : UInt8) 1 >>= fun t1 =>
       let t2 := memRd l (Go.len t1) 0
       if (t2.2 != Go.Error.nil) = true then
         (if (Go.Error.is t2.2 Go.Error.eof || Go.Error.is t2.2 Go.Error.unexpectedEOF) = true then pure (true, Go.Error.nil)
          else pure (false, t2.2))
       else pure ((Go.len (t2.1 ++ t1.drop t2.1.length) == 0), Go.Error.nil)) := rfl
  have hmk : Go.makeOf (0 : UInt8) (1 : Int) = .ok (List.replicate 1 0) := makeOf_natCast 0 1 (by omega)
  rw [hm]
  simp only [Bool.false_eq_true, if_false]
  rw [hmk, bind_ok]
  simp only [len_replicate]
  cases l with
  | nil =>
    have he := memRd0_eof [] 1 (by decide)
    have : ((memRd [] ((1 : Nat) : Int) 0).2 != Go.Error.nil) = true := by rw [he]; simp
    rw [if_pos this, he]
    rfl
  | cons c r =>
    rw [memRd0_ok (c :: r) 1 (by simp) (by omega)]
    rfl

def newReaderM (fuel : Nat) (reader : Go.ReaderAt) : M (Bucketteer_Reader × Go.Error) :=
  bkIsReaderEmpty reader >>= fun t1 =>
  if (t1.2 != Go.Error.nil) = true then
    pure (Bucketteer_Reader.zero, Go.Error.wrap "failed to check if reader is empty: %w" t1.2) else
  if t1.1 = true then pure (Bucketteer_Reader.zero, Go.Error.other "reader is empty") else
  bkNewLayoutPtr fuel >>= fun _ =>
  bkReadHeader fuel reader >>= fun t3 =>
  if (t3.2.2.2 != Go.Error.nil) = true then
    pure (Bucketteer_Reader.zero, Go.Error.wrap "failed to read header: %w" t3.2.2.2) else
  pure ({ contentReader := Go.sectionReader reader t3.2.2.1 9223372036854775807, meta_ := t3.2.1, prefixToOffset := t3.1 },
    Go.Error.nil)

theorem newReader_unfold (fuel : Nat) (reader : Go.ReaderAt) : bkNewReader fuel reader = newReaderM fuel reader := rfl

/-- **tie**: `NewReader(reader)`, as translated from the source, over an in-memory reader: for every byte string below
    2^62 bytes it returns the Reader over the table, the metadata and the content section `readHeader` found
    (`hdrSpec`), or a non-nil error — never a panic -/
theorem gen_bkNewReader_eq_spec (l : List UInt8) (fuel : Nat) (hf : 800000 < fuel) (hl : l.length < 2 ^ 62) :
    match (if l = [] then none else hdrSpec l) with
    | some (t, m, hsz) => ∃ T, TableRep t T ∧ bkNewReader fuel (memRd l) =
        .ok ({ contentReader := Go.sectionReader (memRd l) (hsz : Int) 9223372036854775807, meta_ := ofKvs m, prefixToOffset := T },
          Go.Error.nil)
    | none => ∃ e, e ≠ Go.Error.nil ∧ bkNewReader fuel (memRd l) = .ok (Bucketteer_Reader.zero, e) := by
  rw [newReader_unfold]
  unfold newReaderM
  rw [isReaderEmpty_eq, bind_ok]
  have hnil : ¬ ((Go.Error.nil != Go.Error.nil) = true) := by simp
  rw [if_neg hnil]
  by_cases he : l = []
  · have : decide (l = []) = true := by simpa using he
    rw [if_pos he, if_pos this]
    exact ⟨_, (by intro h; cases h), rfl⟩
  · have : ¬ (decide (l = []) = true) := by simpa using he
    rw [if_neg he, if_neg this, newLayoutPtr_eq fuel (by omega), bind_ok]
    have hh := gen_bkReadHeader_eq_spec l fuel hf hl
    cases hsp : hdrSpec l with
    | none =>
      rw [hsp] at hh
      obtain ⟨e, hne, hee⟩ := hh
      rw [hee, bind_ok]
      have : ((hdrErr e).2.2.2 != Go.Error.nil) = true := by
        show (e != Go.Error.nil) = true
        simpa using hne
      rw [if_pos this]
      exact ⟨_, wrap_ne_nil _ _, rfl⟩
    | some q =>
      obtain ⟨t, m, hsz⟩ := q
      rw [hsp] at hh
      obtain ⟨T, hT, hee⟩ := hh
      rw [hee, bind_ok]
      simp only
      rw [if_neg hnil]
      exact ⟨T, hT, rfl⟩

end GoTies.BkOpen
