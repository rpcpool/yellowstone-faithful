import Faithful.Generated.GoFns
import Faithful.Lib.IndexMeta
import Faithful.Ties.Basic
/-!
C10 ties: the index metadata codec (`indexmeta/indexmeta.go`: `MarshalBinary`, `UnmarshalBinary` / `UnmarshalWithDecoder`,
`Get`, `GetUint64`), translated from /repo's working tree on every run, computes what the model `IndexMeta.*` says — so
`IndexMeta.decode_encode` / `ident_roundtrip` ("epoch, root CID, network and kind written at build time are read back
unchanged") speak about the code in the tree.

Assumption recorded with the translation: `indexmeta.Decoder` (gagliardetto/binary's Borsh decoder over the byte slice) is
given the meaning of an in-memory byte reader (`ReadByte` = next byte or io.EOF, `io.ReadFull` = exactly n bytes or an error).
-/
namespace GoTies.C10
open Go Generated.G GoTies

def kvs (m : Indexmeta_Meta) : IndexMeta.KVs := m.KeyVals.map fun kv => (kv.Key, kv.Value)
def ofKvs (l : IndexMeta.KVs) : Indexmeta_Meta := { KeyVals := l.map fun kv => { Key := kv.1, Value := kv.2 } }

theorem kvs_ofKvs (l : IndexMeta.KVs) : kvs (ofKvs l) = l := by
  unfold kvs ofKvs
  induction l with
  | nil => rfl
  | cons a r ih => simp at ih ⊢; exact ih

def encKV (kv : Indexmeta_KV) : List UInt8 :=
  (UInt8.ofNat kv.Key.length :: kv.Key) ++ (UInt8.ofNat kv.Value.length :: kv.Value)

def okKV (kv : Indexmeta_KV) : Prop := kv.Key.length ≤ 255 ∧ kv.Value.length ≤ 255
instance (kv : Indexmeta_KV) : Decidable (okKV kv) := by unfold okKV; exact inferInstance

theorem marshal_exit (fuel0 : Nat) (m : Indexmeta_Meta) (l : List Indexmeta_KV) (f : Nat) (buf : List UInt8) :
    metaMarshal.loop1 fuel0 m l (f + 1) buf (l.length : Int) = .ok (.done (buf, (l.length : Int))) := by
  rw [metaMarshal.loop1]
  simp only [Go.len, Int.lt_irrefl, decide_false, Bool.not_false, if_true, pure_eq_ok]

theorem marshal_step_ok (fuel0 : Nat) (m : Indexmeta_Meta) (l : List Indexmeta_KV) (hl : l.length < 2 ^ 62) (f k : Nat)
    (buf : List UInt8) (hlt : k < l.length) (hok : okKV l[k]) :
    metaMarshal.loop1 fuel0 m l (f + 1) buf (k : Int) = metaMarshal.loop1 fuel0 m l f (buf ++ encKV l[k]) ((k + 1 : Nat) : Int) := by
  have hlt' : (k : Int) < (l.length : Int) := Int.ofNat_lt.mpr hlt
  have hk : ¬ ((l[k].Key.length : Int) > 255) := by have := hok.1; omega
  have hv : ¬ ((l[k].Value.length : Int) > 255) := by have := hok.2; omega
  rw [metaMarshal.loop1]
  simp only [Go.len, hlt', hk, hv, decide_true, decide_false, Bool.not_true, Bool.false_eq_true, if_false, idx_getElem l k hlt,
    bind_ok, wrap64_natCast_succ k (by omega), u8OfInt_natCast _ hok.1, u8OfInt_natCast _ hok.2, encKV, List.append_assoc, List.cons_append, List.nil_append]

theorem marshal_step_err (fuel0 : Nat) (m : Indexmeta_Meta) (l : List Indexmeta_KV) (f k : Nat) (buf : List UInt8)
    (hlt : k < l.length) (hok : ¬ okKV l[k]) : ∃ t, metaMarshal.loop1 fuel0 m l (f + 1) buf (k : Int) = .error (.err t) := by
  have hlt' : (k : Int) < (l.length : Int) := Int.ofNat_lt.mpr hlt
  rw [metaMarshal.loop1]
  simp only [Go.len, hlt', decide_true, Bool.not_true, Bool.false_eq_true, if_false, idx_getElem l k hlt, bind_ok]
  by_cases hk : (l[k].Key.length : Int) > 255
  · simp only [hk, decide_true, if_true, throw_eq, bind_error]
    exact ⟨_, rfl⟩
  · have hv : (l[k].Value.length : Int) > 255 := by unfold okKV at hok; omega
    simp only [hk, hv, decide_true, decide_false, Bool.false_eq_true, if_true, if_false, throw_eq, bind_error]
    exact ⟨_, rfl⟩

theorem marshal_loop (fuel0 : Nat) (m : Indexmeta_Meta) (l : List Indexmeta_KV) (hl : l.length < 2 ^ 62) :
    ∀ (fuel k : Nat) (buf : List UInt8), k ≤ l.length → l.length - k < fuel →
      (if ∀ kv ∈ l.drop k, okKV kv then
         metaMarshal.loop1 fuel0 m l fuel buf (k : Int) = .ok (.done (buf ++ (l.drop k).flatMap encKV, (l.length : Int)))
       else ∃ t, metaMarshal.loop1 fuel0 m l fuel buf (k : Int) = .error (.err t)) := by
  intro fuel
  induction fuel with
  | zero => intro k buf _ h; omega
  | succ f ih =>
    intro k buf hk hf
    by_cases hlt : k < l.length
    · rw [List.drop_eq_getElem_cons hlt]
      by_cases hok : okKV l[k]
      · have := ih (k + 1) (buf ++ encKV l[k]) (by omega) (by omega)
        rw [marshal_step_ok fuel0 m l hl f k buf hlt hok]
        by_cases hall : ∀ kv ∈ l.drop (k + 1), okKV kv
        · rw [if_pos hall] at this
          rw [if_pos (List.forall_mem_cons.mpr ⟨hok, hall⟩), this, List.flatMap_cons, List.append_assoc]
        · rw [if_neg hall] at this
          rw [if_neg (fun h => hall (List.forall_mem_cons.mp h).2)]
          exact this
      · rw [if_neg (fun h => hok (List.forall_mem_cons.mp h).1)]
        exact marshal_step_err fuel0 m l f k buf hlt hok
    · obtain rfl : k = l.length := by omega
      rw [List.drop_length, if_pos (fun _ h => nomatch h), marshal_exit, List.flatMap_nil, List.append_nil]

theorem metaBytes_eq (m : Indexmeta_Meta) :
    CI.metaBytes (kvs m) = UInt8.ofNat m.KeyVals.length :: m.KeyVals.flatMap encKV := by
  unfold CI.metaBytes kvs
  simp only [List.length_map, List.flatMap_map]
  rfl

theorem fits_iff (m : Indexmeta_Meta) : IndexMeta.fits (kvs m) ↔ (m.KeyVals.length ≤ 255 ∧ ∀ kv ∈ m.KeyVals, okKV kv) := by
  unfold IndexMeta.fits kvs okKV
  have e1 : Generated.metaMaxNumKVs = 255 := rfl
  have e2 : Generated.metaMaxKeySize = 255 := rfl
  have e3 : Generated.metaMaxValueSize = 255 := rfl
  simp only [List.length_map, e1, e2, e3, List.mem_map, forall_exists_index, and_imp]
  constructor
  · rintro ⟨h1, h2⟩; exact ⟨h1, fun kv hkv => h2 _ kv hkv rfl⟩
  · rintro ⟨h1, h2⟩; exact ⟨h1, fun p kv hkv he => by subst he; exact h2 kv hkv⟩

/-- **tie**: `Meta.MarshalBinary` as translated from the source returns the bytes of the model's `encode` when the metadata
    fits the format's limits, and a Go error exactly when the model refuses (more than 255 pairs, a key or value longer than
    255 bytes); `fuel` > number of pairs. -/
theorem gen_metaMarshal_eq_model (m : Indexmeta_Meta) (fuel : Nat) (hf : m.KeyVals.length < fuel) (hl : m.KeyVals.length < 2 ^ 62) :
    match IndexMeta.encode (kvs m) with
    | some b => metaMarshal fuel m = .ok b
    | none => ∃ t, metaMarshal fuel m = .error (.err t) := by
  unfold IndexMeta.encode metaMarshal
  by_cases hn : m.KeyVals.length ≤ 255
  · have hn' : ¬ (Go.len m.KeyVals > 255) := by unfold Go.len; omega
    simp only [hn', decide_false, Bool.false_eq_true, if_false, List.nil_append]
    have hloop := marshal_loop fuel m m.KeyVals hl fuel 0 [Go.u8OfInt (Go.len m.KeyVals)] (by omega) (by omega)
    simp only [Int.natCast_zero, List.drop_zero] at hloop
    by_cases hall : ∀ kv ∈ m.KeyVals, okKV kv
    · have hfit : IndexMeta.fits (kvs m) := (fits_iff m).mpr ⟨hn, hall⟩
      rw [if_pos hall] at hloop
      rw [if_pos hfit]
      simp only [hloop, bind_ok, pure_eq_ok, metaBytes_eq]
      have : Go.u8OfInt (Go.len m.KeyVals) = UInt8.ofNat m.KeyVals.length := u8OfInt_natCast _ hn
      rw [this]; rfl
    · have hfit : ¬ IndexMeta.fits (kvs m) := fun h => hall ((fits_iff m).mp h).2
      rw [if_neg hall] at hloop
      rw [if_neg hfit]
      obtain ⟨t, ht⟩ := hloop
      exact ⟨t, by simp only [ht, bind_error]⟩
  · have hn' : (Go.len m.KeyVals > 255) := by unfold Go.len; omega
    have hfit : ¬ IndexMeta.fits (kvs m) := fun h => hn ((fits_iff m).mp h).1
    rw [if_neg hfit]
    simp only [hn', decide_true, if_true, throw_eq, bind_error]
    exact ⟨_, rfl⟩


theorem readByte_eq (d : List UInt8) (p : Nat) :
    Go.readByte ⟨d, p⟩ = match d.drop p with
      | [] => .error (.err "EOF")
      | b :: _ => .ok (⟨d, p + 1⟩, b) := by
  unfold Go.readByte
  cases d.drop p <;> rfl

def mkKV (kv : List UInt8 × List UInt8) : Indexmeta_KV := { Key := kv.1, Value := kv.2 }

theorem makeOf_u8 (n : UInt8) : Go.makeOf (0 : UInt8) ((n.toNat : Nat) : Int) = .ok (List.replicate n.toNat 0) :=
  makeOf_natCast 0 n.toNat (Nat.lt_trans n.toNat_lt (by decide))

/-- a length byte, then that many bytes, read from the decoder (`ReadByte`, `make`, `io.ReadFull`), then `k` -/
def readField {β : Type} (r : Go.BytesReader) (k : Go.BytesReader × List UInt8 → M β) : M β :=
  Go.readByte r >>= fun t => Go.makeOf (0 : UInt8) (t.2.toNat : Int) >>= fun b => Go.readFull t.1 (Go.len b) >>= k

theorem readField_nil {β : Type} (d : List UInt8) (p : Nat) (k : Go.BytesReader × List UInt8 → M β) (h : d.drop p = []) :
    IsErr (readField ⟨d, p⟩ k) := by
  rw [readField, readByte_eq, h]
  exact .err _

theorem readField_cons {β : Type} (d : List UInt8) (p : Nat) (k : Go.BytesReader × List UInt8 → M β) {n : UInt8}
    {r : List UInt8} (h : d.drop p = n :: r) :
    (r.length < n.toNat → IsErr (readField ⟨d, p⟩ k)) ∧
    (¬ r.length < n.toNat → readField ⟨d, p⟩ k = k (⟨d, p + 1 + n.toNat⟩, r.take n.toNat) ∧
      d.drop (p + 1 + n.toNat) = r.drop n.toNat) := by
  have hr : d.drop (p + 1) = r := drop_succ_of_drop_eq_cons h
  rw [readField, readByte_eq, h]
  simp only [bind_ok, makeOf_u8, len_replicate]
  refine ⟨fun hlt => ?_, fun hge => ?_⟩
  · obtain ⟨t, ht⟩ := readFull_gen d (p + 1) n.toNat (by rw [hr]; exact hlt)
    rw [ht]; exact ⟨t, rfl⟩
  · rw [readFull_ok d (p + 1) n.toNat (by rw [hr]; exact hge), bind_ok, hr, ← hr, List.drop_drop]
    exact ⟨rfl, rfl⟩

theorem unmarshal_step (fuel0 : Nat) (n : UInt8) (f : Nat) (dec : Go.BytesReader) (i : Int) (m : Indexmeta_Meta) :
    metaUnmarshalDec.loop1 fuel0 n (f + 1) dec i m =
      if (!decide (i < (n.toNat : Int))) = true then pure (.done (dec, i, m)) else
      readField dec fun a => readField a.1 fun b =>
        metaUnmarshalDec.loop1 fuel0 n f b.1 (Go.wrap64 (i + 1)) { m with KeyVals := m.KeyVals ++ [{ Key := a.2, Value := b.2 }] } :=
  rfl

theorem unmarshal_loop (fuel0 : Nat) (n : UInt8) (d : List UInt8) : ∀ (c fuel i p : Nat) (m : Indexmeta_Meta),
    i + c = n.toNat → c < fuel →
    match CI.parseMetaKVs c (d.drop p) with
    | some l => ∃ r', metaUnmarshalDec.loop1 fuel0 n fuel ⟨d, p⟩ (i : Int) m
        = .ok (.done (r', (n.toNat : Int), { m with KeyVals := m.KeyVals ++ l.map mkKV }))
    | none => ∃ t, metaUnmarshalDec.loop1 fuel0 n fuel ⟨d, p⟩ (i : Int) m = .error (.err t) := by
  intro c
  induction c with
  | zero =>
    intro fuel i p m hi hf
    obtain ⟨f, rfl⟩ : ∃ f, fuel = f + 1 := ⟨fuel - 1, by omega⟩
    obtain rfl : i = n.toNat := by omega
    rw [unmarshal_step, if_pos (by rw [decide_eq_false (Int.lt_irrefl _)]; rfl)]
    exact ⟨_, by rw [List.map_nil, List.append_nil]; rfl⟩
  | succ c ih =>
    intro fuel i p m hi hf
    obtain ⟨f, rfl⟩ : ∃ f, fuel = f + 1 := ⟨fuel - 1, by omega⟩
    rw [unmarshal_step, if_neg (by rw [decide_eq_true (Int.ofNat_lt.mpr (by omega))]; nofun)]
    simp only [CI.parseMetaKVs]
    cases h1 : d.drop p with
    | nil => exact readField_nil d p _ h1
    | cons kl r =>
      dsimp only
      obtain ⟨hshort, hfull⟩ := readField_cons d p
        (fun a => readField a.1 fun b => metaUnmarshalDec.loop1 fuel0 n f b.1 (Go.wrap64 ((i : Int) + 1))
          { m with KeyVals := m.KeyVals ++ [{ Key := a.2, Value := b.2 }] }) h1
      by_cases hk : r.length < kl.toNat
      · rw [if_pos hk]; exact hshort hk
      obtain ⟨e1, hd1⟩ := hfull hk
      rw [if_neg hk, e1]
      dsimp only
      cases h2 : r.drop kl.toNat with
      | nil => exact readField_nil d _ _ (hd1.trans h2)
      | cons vl r2 =>
        dsimp only
        obtain ⟨hshort2, hfull2⟩ := readField_cons d (p + 1 + kl.toNat)
          (fun b => metaUnmarshalDec.loop1 fuel0 n f b.1 (Go.wrap64 ((i : Int) + 1))
            { m with KeyVals := m.KeyVals ++ [{ Key := r.take kl.toNat, Value := b.2 }] }) (hd1.trans h2)
        by_cases hv : r2.length < vl.toNat
        · rw [if_pos hv]; exact hshort2 hv
        obtain ⟨e2, hd2⟩ := hfull2 hv
        rw [if_neg hv, e2, wrap64_natCast_succ i (by have := n.toNat_lt; omega)]
        have := ih f (i + 1) (p + 1 + kl.toNat + 1 + vl.toNat)
          { m with KeyVals := m.KeyVals ++ [{ Key := r.take kl.toNat, Value := r2.take vl.toNat }] } (by omega) (by omega)
        rw [hd2] at this
        cases h3 : CI.parseMetaKVs c (r2.drop vl.toNat) with
        | none => rw [h3] at this; exact this
        | some l =>
          rw [h3] at this
          obtain ⟨r', hr'⟩ := this
          exact ⟨r', by rw [hr']; simp only [List.map_cons, mkKV, List.append_assoc, List.cons_append, List.nil_append]⟩

theorem ofKvs_eq (l : IndexMeta.KVs) : ofKvs l = { KeyVals := l.map mkKV } := rfl

/-- **tie**: `Meta.UnmarshalBinary(b)` on an empty `Meta`, as translated from the source, returns the pairs the model's
    `decode` returns, and a Go error exactly when the model rejects `b` — for every byte string (`fuel` > 256: at most 255
    pairs are announced by the count byte). -/
theorem gen_metaUnmarshal_eq_model (b : List UInt8) (fuel : Nat) (hf : 256 < fuel) :
    match IndexMeta.decode b with
    | some l => metaUnmarshal fuel Indexmeta_Meta.zero b = .ok (ofKvs l)
    | none => ∃ t, metaUnmarshal fuel Indexmeta_Meta.zero b = .error (.err t) := by
  unfold IndexMeta.decode CI.parseMeta metaUnmarshal
  cases b with
  | nil => simp [Go.len, ofKvs, Indexmeta_Meta.zero]
  | cons c r =>
    have hne : ¬ (Go.len (c :: r) = 0) := by unfold Go.len; simp; omega
    simp only [beq_iff_eq, hne, if_false]
    unfold metaUnmarshalDec
    simp only [readByte_eq, List.drop_zero, bind_ok]
    have h255 : ¬ (c > 255) := by
      rw [gt_iff_lt, UInt8.lt_iff_toNat_lt]; have := c.toNat_lt; simp; omega
    simp only [h255, decide_false, Bool.false_eq_true, if_false]
    have hloop := unmarshal_loop fuel c (c :: r) c.toNat fuel 0 (0 + 1) Indexmeta_Meta.zero (by omega) (by have := c.toNat_lt; omega)
    simp only [Int.natCast_zero, Nat.zero_add, List.drop_succ_cons, List.drop_zero] at hloop
    simp only [Indexmeta_Meta.zero, List.nil_append] at hloop
    cases hp : CI.parseMetaKVs c.toNat r with
    | none =>
      rw [hp] at hloop
      obtain ⟨t, ht⟩ := hloop
      exact ⟨t, by simp only [Indexmeta_Meta.zero, Nat.zero_add, ht, bind_error]⟩
    | some l =>
      rw [hp] at hloop
      obtain ⟨r', hr'⟩ := hloop
      simp only [Indexmeta_Meta.zero, Nat.zero_add, hr', bind_ok, pure_eq_ok, ofKvs_eq]

theorem get_loop (fuel0 : Nat) (m : Indexmeta_Meta) (l : List Indexmeta_KV) (key : List UInt8) (hl : l.length < 2 ^ 62) :
    ∀ (fuel k : Nat), k ≤ l.length → l.length - k < fuel →
      metaGet.loop1 fuel0 m l fuel key (k : Int) =
        match (l.drop k).find? (fun kv => kv.Key == key) with
        | some kv => .ok (.ret (kv.Value, true))
        | none => .ok (.done (key, (l.length : Int))) := by
  intro fuel
  induction fuel with
  | zero => intro k _ h; omega
  | succ f ih =>
    intro k hk hf
    rw [metaGet.loop1]
    by_cases hlt : k < l.length
    · have hlt' : (k : Int) < (l.length : Int) := Int.ofNat_lt.mpr hlt
      simp only [Go.len, hlt', decide_true, Bool.not_true, Bool.false_eq_true, if_false, idx_getElem l k hlt, bind_ok,
        wrap64_natCast_succ k (by omega)]
      rw [List.drop_eq_getElem_cons hlt, List.find?_cons]
      by_cases he : l[k].Key == key
      · simp only [he, if_true, pure_eq_ok]
      · simp only [he, Bool.false_eq_true, if_false]
        exact ih (k + 1) (by omega) (by omega)
    · obtain rfl : k = l.length := by omega
      simp only [Go.len, Int.lt_irrefl, decide_false, Bool.not_false, if_true, pure_eq_ok, List.drop_length, List.find?_nil]

/-- **tie**: `Meta.Get(key)` = the model's `get`: the first value stored under the key, or `(nil, false)` -/
theorem gen_metaGet_eq_model (m : Indexmeta_Meta) (key : List UInt8) (fuel : Nat) (hf : m.KeyVals.length < fuel)
    (hl : m.KeyVals.length < 2 ^ 62) :
    metaGet fuel m key = .ok (match IndexMeta.get (kvs m) key with | some v => (v, true) | none => ([], false)) := by
  unfold metaGet IndexMeta.get kvs
  have h := get_loop fuel m m.KeyVals key hl fuel 0 (by omega) (by omega)
  simp only [Int.natCast_zero, List.drop_zero] at h
  simp only [h]
  rw [List.find?_map, show ((fun kv : List UInt8 × List UInt8 => kv.1 == key) ∘ fun kv : Indexmeta_KV => (kv.Key, kv.Value))
    = fun kv => kv.Key == key from rfl]
  cases List.find? (fun kv => kv.Key == key) m.KeyVals <;> rfl

/-- **tie**: `Meta.GetUint64(key)` = the model's `getUint64`: absent key or a value shorter than 8 bytes give `(0, false)`,
    otherwise the little-endian value of the first 8 bytes -/
theorem gen_metaGetUint64_eq_model (m : Indexmeta_Meta) (key : List UInt8) (fuel : Nat) (hf : m.KeyVals.length < fuel)
    (hl : m.KeyVals.length < 2 ^ 62) :
    metaGetUint64 fuel m key = .ok (match IndexMeta.getUint64 (kvs m) key with
      | .val n => (UInt64.ofNat n, true)
      | _ => (0, false)) := by
  unfold metaGetUint64 IndexMeta.getUint64
  simp only [gen_metaGet_eq_model m key fuel hf hl, bind_ok]
  cases hg : IndexMeta.get (kvs m) key with
  | none => simp
  | some v =>
    simp only [Bool.not_true, Bool.false_eq_true, if_false]
    by_cases h8 : v.length < 8
    · have : (Go.len v < 8) := by unfold Go.len; omega
      simp [this, h8]
    · have : ¬ (Go.len v < 8) := by unfold Go.len; omega
      simp only [this, decide_false, Bool.false_eq_true, if_false, h8]
      unfold metaDecodeUint64
      simp only [leU64_of_le v (by omega), bind_ok, pure_eq_ok]

example : metaMarshal 10 (ofKvs [([1, 2], [3])]) = .ok [1, 2, 1, 2, 1, 3] := by rfl
example : metaUnmarshal 300 Indexmeta_Meta.zero [1, 2, 1, 2, 1, 3] = .ok (ofKvs [([1, 2], [3])]) := by rfl
example : ∃ t, metaUnmarshal 300 Indexmeta_Meta.zero [1, 2, 1, 2, 5, 3] = .error (.err t) := ⟨_, rfl⟩
example : metaGet 10 (ofKvs [([1, 2], [3]), ([7], [8, 9])]) [7] = .ok ([8, 9], true) := by rfl

end GoTies.C10
