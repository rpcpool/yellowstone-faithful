import Faithful.Generated.GoFns
import Faithful.Lib.GsfaLog
import Faithful.Ties.Basic
/-!
C06 ties: the entry codec of the address index's linked log (`gsfa/linkedlog/offset-size-slot.go`), translated from
/repo's working tree on every run, is the codec of the model (`Gsfa.encEntry`).
-/
namespace GoTies.C06
open Go Generated.G GoTies

theorem putUvarint_go_eq (f v : Nat) : Go.putUvarint.go f v = Gsfa.putF f v := by
  induction f generalizing v with
  | zero => rfl
  | succ f ih => simp [Go.putUvarint.go, Gsfa.putF, ih]

theorem putUvarint_eq (v : UInt64) : Go.putUvarint v = Gsfa.putU64 v.toNat := by
  unfold Go.putUvarint Gsfa.putU64; exact putUvarint_go_eq 10 v.toNat

/-- **tie**: `OffsetAndSizeAndSlot.Bytes()` = `encEntry`: three uvarints (offset, size, slot) and the flags byte -/
theorem gen_oassBytes_eq_model (o s sl : UInt64) (f : UInt8) :
    oassBytes { Offset := o, Size := s, Slot := sl, Flags := f } = .ok (Gsfa.encEntry ⟨o, s, sl, f⟩) := by
  unfold oassBytes Gsfa.encEntry
  simp [putUvarint_eq]

/-! `binary.Uvarint` in accumulator form: `x` is the value of the bytes read so far, `W = 2^s` the weight of the next one -/

theorem acc_lt {x c W : Nat} (hx : x < W) (hc : c < 128) : x + c * W < W * 128 := by
  have : c * W ≤ 127 * W := Nat.mul_le_mul_right _ (Nat.le_of_lt_succ hc)
  omega

theorem acc_cont {c : Nat} (x v W : Nat) (h1 : 128 ≤ c) (h2 : c < 256) :
    x + c % 128 * W + v * (W * 128) = x + (c - 128 + 128 * v) * W := by
  rw [Nat.mod_eq_sub_mod h1, Nat.mod_eq_of_lt (Nat.sub_lt_left_of_lt_add h1 h2), Nat.add_mul, Nat.mul_comm W,
    ← Nat.mul_assoc, Nat.mul_comm v, Nat.add_assoc]

/-- Go's overflow rule (the tenth byte must be 0 or 1), for `W = 2^63`: `x + c·W < 2^64` -/
theorem acc_overflow {x c W : Nat} (hx : x < W) : 1 < c ↔ W * 2 ≤ x + c * W := by
  constructor
  · intro h
    have : 2 * W ≤ c * W := Nat.mul_le_mul_right W h
    omega
  · intro h
    apply Nat.lt_of_not_le
    intro hc
    have : c * W ≤ 1 * W := Nat.mul_le_mul_right W hc
    omega

/-- `binary.Uvarint` after `i` bytes against `Varint.get` with the remaining fuel -/
theorem uvarint_go_eq (b : List UInt8) : ∀ (f i x s : Nat), i + f = 10 → s = 7 * i → x < 2 ^ s →
    match Varint.get b f with
    | some (v, n) =>
      if x + v * 2 ^ s < 2 ^ 64 then Go.uvarint.go b i x s = (UInt64.ofNat (x + v * 2 ^ s), ((i + n : Nat) : Int))
      else (Go.uvarint.go b i x s).2 ≤ 0
    | none => (Go.uvarint.go b i x s).2 ≤ 0 := by
  induction b with
  | nil => intro f i x s _ _ _; exact Int.le_refl 0
  | cons c rest ih =>
    intro f i x s hi hs hx
    have hneg : -((i : Int) + 1) ≤ 0 := by omega
    cases f with
    | zero => rw [Varint.get, Go.uvarint.go, if_pos (show i = 10 from hi)]; exact hneg
    | succ f =>
      rw [Varint.get, Go.uvarint.go, if_neg (show ¬ i = 10 by omega)]
      by_cases hc : c.toNat < 128
      · rw [if_pos hc, if_pos hc]
        by_cases h9 : i = 9 ∧ c.toNat > 1
        · rw [if_pos h9]
          refine (if_neg ?_).mpr hneg
          rw [hs, h9.1]
          rw [hs, h9.1] at hx
          exact Nat.not_lt.mpr ((acc_overflow hx).mp h9.2)
        · rw [if_neg h9]
          refine (if_pos ?_).mpr rfl
          by_cases hi9 : i = 9
          · rw [hs, hi9]
            rw [hs, hi9] at hx
            exact Nat.lt_of_not_le (mt (acc_overflow hx).mpr (fun h => h9 ⟨hi9, h⟩))
          · exact Nat.lt_of_lt_of_le (Nat.pow_add 2 s 7 ▸ acc_lt hx hc)
              (Nat.pow_le_pow_right (by decide) (by omega))
      · rw [if_neg hc, if_neg hc]
        have hc8 := c.toNat_lt
        have := ih f (i + 1) (x + c.toNat % 128 * 2 ^ s) (s + 7) ((Nat.add_right_comm i 1 f).trans hi)
          (hs ▸ (Nat.mul_succ 7 i).symm) (Nat.pow_add 2 s 7 ▸ acc_lt hx (Nat.mod_lt _ (by decide)))
        cases hg : Varint.get rest f with
        | none => rw [hg] at this; exact this
        | some p =>
          rw [hg] at this
          simp only [Nat.pow_add 2 s 7, acc_cont x p.1 (2 ^ s) (Nat.le_of_not_lt hc) hc8, Nat.add_right_comm i 1 p.2] at this
          exact this
/-- `binary.Uvarint(binary.AppendUvarint(nil, v) ++ rest) = (v, bytes written)` for every `uint64` -/
theorem uvarint_putUvarint (v : UInt64) (rest : List UInt8) :
    Go.uvarint (Go.putUvarint v ++ rest) = (v, ((Go.putUvarint v).length : Int)) := by
  rw [putUvarint_eq, Gsfa.putU64_eq v.toNat_lt]
  have h := uvarint_go_eq (Varint.put v.toNat ++ rest) 10 0 0 0 rfl rfl (by decide)
  rw [Varint.get_put _ _ _ (Gsfa.width_u64 v.toNat_lt)] at h
  simpa [Go.uvarint, v.toNat_lt, Varint.width] using h

example : oassBytes { Offset := 300, Size := 5, Slot := 1, Flags := 3 } = .ok [0xac, 0x02, 5, 1, 3] := by rfl
example : (oassBytes { Offset := 300, Size := 5, Slot := 1, Flags := 3 } >>= oassFromBytes Linkedlog_OffsetAndSizeAndSlot.zero)
    = .ok { Offset := 300, Size := 5, Slot := 1, Flags := 3 } := by rfl

end GoTies.C06
