import Faithful.Generated.GoFns
import Faithful.Ties.Basic
import Faithful.Ties.Slots
/-!
Theorems proved DIRECTLY about the translated code of `blocktimeindex/writer.go` (`Generated.G.btUnmarshal`, `btGet`, …),
with no hand-written model of the decoder in between: the slot-to-blocktime file format is specified here as a
nine-line function `BT.spec`, the translated `unmarshalBinary` is shown to compute it for every byte string, and the
statements of C12 (no panic, on any bytes) and C13 (a cut file gives the same index or an error) are read off.
-/
namespace GoTies.BT
open Go Generated.G GoTies

def magic : List UInt8 := [98, 108, 111, 99, 107, 116, 105, 109, 101, 105, 110, 100, 101, 120]

/-- `n` bytes at `p`, if the data holds them -/
def rd (d : List UInt8) (p n : Nat) : Option (List UInt8) := if p + n ≤ d.length then some ((d.drop p).take n) else none

def u64 (b : List UInt8) : UInt64 := UInt64.ofNat (B.unle b)

/-- the values: `n` little-endian uint32 from `bs` -/
def values : Nat → List UInt8 → List Int
  | 0, _ => []
  | n+1, bs => ((B.unle (bs.take 4) % 4294967296 : Nat) : Int) :: values n (bs.drop 4)

/-- the file format: magic ‖ start ‖ end ‖ epoch ‖ capacity (u64 LE each) ‖ capacity × u32 LE; `none` = rejected -/
def spec (d : List UInt8) : Option Blocktimeindex_Index := do
  let m ← rd d 0 14
  if m ≠ magic then none else
  let s ← rd d 14 8
  let e ← rd d 22 8
  let ep ← rd d 30 8
  if u64 s / 432000 ≠ u64 e / 432000 then none else
  if u64 s / 432000 ≠ u64 ep then none else
  let c ← rd d 38 8
  if (u64 c).toNat > (d.length - 46) / 4 then none else
  some { start := u64 s, end_ := u64 e, epoch := u64 ep, capacity := u64 c, values := values (u64 c).toNat (d.drop 46) }

theorem rd_of_le {d : List UInt8} {p n : Nat} (h : p + n ≤ d.length) : rd d p n = some ((d.drop p).take n) := if_pos h

theorem le_of_rd {d : List UInt8} {p n : Nat} {b : List UInt8} (h : rd d p n = some b) : p + n ≤ d.length := by
  unfold rd at h; split at h
  · assumption
  · cases h

theorem rd_length {d : List UInt8} {p n : Nat} {b : List UInt8} (h : rd d p n = some b) : b.length = n := by
  have hle := le_of_rd h
  rw [rd_of_le hle] at h
  rw [← Option.some.inj h, List.length_take, List.length_drop]; omega

theorem fromLE_eq (b : List UInt8) (h : b.length = 8) : uint64FromLEBytes b = .ok (u64 b) := by
  rw [uint64FromLEBytes, leU64_eq b h]; rfl

theorem make4 : Go.makeOf (0 : UInt8) (4 : Int) = .ok (List.replicate 4 0) := makeOf_natCast 0 4 (by decide)

theorem take_set_succ {α : Type} (l : List α) (j : Nat) (v : α) (h : j < l.length) : (l.set j v).take (j + 1) = l.take j ++ [v] := by
  induction l generalizing j with
  | nil => simp at h
  | cons x xs ih =>
    cases j with
    | zero => simp
    | succ j => simp at h; simp [ih j h]

theorem loop_eq (fuel0 : Nat) (d : List UInt8) : ∀ (n fuel : Nat) (i : Blocktimeindex_Index) (j : UInt64) (p : Nat),
    i.values.length = i.capacity.toNat → j.toNat + n = i.capacity.toNat → p + 4 * n ≤ d.length → n < fuel →
    btUnmarshal.loop1 fuel0 fuel i j ⟨d, p⟩ =
      .ok (.done ({ i with values := i.values.take j.toNat ++ values n (d.drop p) }, i.capacity, ⟨d, p + 4 * n⟩)) := by
  intro n
  induction n with
  | zero =>
    intro fuel i j p hlen hj _ hf
    cases fuel with
    | zero => exact absurd hf (Nat.not_lt_zero _)
    | succ f =>
      have hje : j = i.capacity := UInt64.toNat_inj.mp hj
      subst hje
      rw [btUnmarshal.loop1, if_pos (by simp), values, List.append_nil, ← hlen, List.take_length]; rfl
  | succ n ih =>
    intro fuel i j p hlen hj hp hf
    cases fuel with
    | zero => exact absurd hf (Nat.not_lt_zero _)
    | succ f =>
      have hlt : j < i.capacity := UInt64.lt_iff_toNat_lt.mpr (by omega)
      have hj1 : (j + 1).toNat = j.toNat + 1 := by
        have := i.capacity.toNat_lt
        rw [UInt64.toNat_add, UInt64.toNat_one, Nat.mod_eq_of_lt (by omega)]
      have hb4 : ((d.drop p).take 4).length = 4 := by rw [List.length_take, List.length_drop]; omega
      rw [btUnmarshal.loop1]
      simp only [hlt, decide_true, Bool.not_true, Bool.false_eq_true, if_false, make4, bind_ok, len_replicate]
      rw [readFull_ok d p 4 (by rw [List.length_drop]; omega)]
      simp only [bind_ok, leU32_eq _ hb4, UInt32.toNat_ofNat', setIdx_natCast _ _ _ (show j.toNat < i.values.length by omega)]
      have e2 : p + 4 + 4 * n = p + 4 * (n + 1) := by omega
      rw [ih f _ (j + 1) (p + 4) (by rw [List.length_set]; exact hlen) (by show (j + 1).toNat + n = i.capacity.toNat; omega) (by omega)
          (Nat.lt_of_succ_lt_succ hf),
        hj1, take_set_succ _ _ _ (by omega), e2, values, List.drop_drop, List.append_assoc]
      rfl

/-! ### `unmarshalBinary` computes the format

The decoder and `spec` are walked together, a rule of `Realizes IsErr .ok` per step; a rule looks at the head of the
do-block only (unfolding it copies the continuation once per join point). -/

section steps
variable {α β : Type} {o : Option α}

/-- `buf := make([]byte, n); io.ReadFull(reader, buf)` against `rd` -/
theorem realizes_read {d : List UInt8} {p : Nat} (n : Nat) (h0 : 0 < n) (hn : n < 2 ^ 48) {o : List UInt8 → Option α}
    {k : Go.BytesReader × List UInt8 → M α} (h : ∀ b, rd d p n = some b → Realizes IsErr Except.ok (o b) (k (⟨d, p + n⟩, b))) :
    Realizes IsErr Except.ok (rd d p n >>= o) (Go.makeOf (0 : UInt8) (n : Int) >>= fun buf => Go.readFull ⟨d, p⟩ (Go.len buf) >>= k) := by
  rw [makeOf_natCast _ _ hn, bind_ok, len_replicate]
  by_cases hle : p + n ≤ d.length
  · rw [readFull_ok d p n (by rw [List.length_drop]; omega), rd_of_le hle]
    exact h _ (rd_of_le hle)
  · obtain ⟨t, ht⟩ := readFull_gen d p n (by rw [List.length_drop]; omega)
    rw [ht, rd, if_neg hle]
    exact .none ⟨t, rfl⟩

end steps

theorem capacity_guard (d : List UInt8) (hd : d.length < 2 ^ 48) (h46 : 46 ≤ d.length) (c : UInt64) :
    decide (c > Go.u64OfInt (Go.BytesReader.remaining ⟨d, 46⟩) / 4) = true ↔ c.toNat > (d.length - 46) / 4 := by
  have hrem : Go.u64OfInt (Go.BytesReader.remaining ⟨d, 46⟩) = UInt64.ofNat (d.length - 46) := by
    show Go.u64OfInt ((d.length - 46 : Nat) : Int) = _
    rw [Go.u64OfInt]; congr 1; omega
  rw [decide_eq_true_eq, hrem, gt_iff_lt, UInt64.lt_iff_toNat_lt, UInt64.toNat_div, UInt64.toNat_ofNat', Nat.mod_eq_of_lt (by omega)]; rfl

/-- **the translated `unmarshalBinary` computes `spec`**: on every byte string (shorter than 2^48 bytes) it returns the
    index `spec` describes, or a Go error exactly when `spec` rejects — never a panic, never out of fuel (`fuel >` the
    number of bytes is always enough).  The receiver's previous content is irrelevant. -/
theorem unmarshal_eq_spec (z : Blocktimeindex_Index) (d : List UInt8) (hd : d.length < 2 ^ 48) (fuel : Nat) (hf : d.length < fuel) :
    match spec d with
    | some idx => btUnmarshal fuel z d = .ok idx
    | none => ∃ t, btUnmarshal fuel z d = .error (.err t) := by
  suffices key : Realizes IsErr Except.ok (spec d) (btUnmarshal fuel z d) by
    cases hs : spec d with
    | none => exact key.2 hs
    | some idx => exact key.1 idx hs
  have thrown : ∀ {e : String} {jp : Unit → M Blocktimeindex_Index}, IsErr (throw (Err.err e) >>= jp) := ⟨_, rfl⟩
  unfold btUnmarshal spec
  refine realizes_read 14 (by decide) (by decide) fun m _ => ?_
  refine .ite (by simp [magic]) (fun _ => thrown) fun _ => ?_
  refine realizes_read 8 (by decide) (by decide) fun sb hs => realizes_bind_ok (fromLE_eq sb (rd_length hs)) ?_
  refine realizes_read 8 (by decide) (by decide) fun eb he => realizes_bind_ok (fromLE_eq eb (rd_length he)) ?_
  refine realizes_read 8 (by decide) (by decide) fun pb hp => realizes_bind_ok (fromLE_eq pb (rd_length hp)) ?_
  refine realizes_bind_ok (Slots.epochForSlot_eq _) (realizes_bind_ok (Slots.epochForSlot_eq _) ?_)
  refine .ite bne_iff_ne (fun _ => thrown) fun _ => .ite bne_iff_ne (fun _ => thrown) fun _ => ?_
  refine realizes_read 8 (by decide) (by decide) fun cb hc => realizes_bind_ok (fromLE_eq cb (rd_length hc)) ?_
  have h46 := le_of_rd hc
  refine .ite (capacity_guard d hd h46 (u64 cb)) (fun _ => thrown) fun hcap => realizes_of_eq ?_
  -- the value table: `capacity` little-endian uint32, all present by the capacity check
  dsimp only
  rw [makeOf_natCast _ _ (by omega), GoTies.bind_ok,
    loop_eq fuel d _ fuel _ 0 46 (List.length_replicate ..) (Nat.zero_add _) (by simp only []; omega) (by simp only []; omega)]
  rfl

theorem unmarshal_of_spec (z : Blocktimeindex_Index) {d : List UInt8} {idx : Blocktimeindex_Index} (h : spec d = some idx)
    (hd : d.length < 2 ^ 48) {fuel : Nat} (hf : d.length < fuel) : btUnmarshal fuel z d = .ok idx := by
  have := unmarshal_eq_spec z d hd fuel hf
  rw [h] at this
  exact this

/-- **C12 on the translated decoder**: on arbitrary bytes `unmarshalBinary` returns an index or an error; it does not
    panic and its loop ends (bytes shorter than 2^48, the in-memory bound of the Go runtime; `fuel` > number of bytes). -/
theorem unmarshal_never_panics (z : Blocktimeindex_Index) (d : List UInt8) (hd : d.length < 2 ^ 48) (fuel : Nat) (hf : d.length < fuel) :
    (∀ w, btUnmarshal fuel z d ≠ .error (.panic w)) ∧ btUnmarshal fuel z d ≠ .error .hang := by
  have h := unmarshal_eq_spec z d hd fuel hf
  cases hs : spec d with
  | some idx =>
    rw [unmarshal_of_spec z hs hd hf]
    exact ⟨fun _ => nofun, nofun⟩
  | none =>
    rw [hs] at h; obtain ⟨t, h⟩ := h; rw [h]
    exact ⟨fun _ => nofun, nofun⟩

theorem spec_eq_some_iff {d : List UInt8} {idx : Blocktimeindex_Index} :
    spec d = some idx ↔
      ∃ m, rd d 0 14 = some m ∧ m = magic ∧ ∃ sb, rd d 14 8 = some sb ∧ ∃ eb, rd d 22 8 = some eb ∧ ∃ pb, rd d 30 8 = some pb ∧
        u64 sb / 432000 = u64 eb / 432000 ∧ u64 sb / 432000 = u64 pb ∧ ∃ cb, rd d 38 8 = some cb ∧
        (u64 cb).toNat ≤ (d.length - 46) / 4 ∧
        { start := u64 sb, end_ := u64 eb, epoch := u64 pb, capacity := u64 cb, values := values (u64 cb).toNat (d.drop 46) } = idx := by
  simp only [spec, Option.bind_eq_bind, Option.bind_eq_some_iff, Option.ite_none_left_eq_some, Option.some.injEq, ne_eq,
    Decidable.not_not, Nat.not_lt, gt_iff_lt]

theorem rd_take {d : List UInt8} {c p n : Nat} {b : List UInt8} (h : rd (d.take c) p n = some b) : rd d p n = some b := by
  have hle := le_of_rd h
  have hc := Nat.le_trans hle (List.length_take_le c d)
  rw [rd_of_le hle, List.drop_take, List.take_take, Nat.min_eq_left (by omega)] at h
  rw [rd_of_le (Nat.le_trans hle (List.length_take_le' c d)), h]

theorem values_take (n : Nat) : ∀ (bs : List UInt8) (k : Nat), 4 * n ≤ k → values n (bs.take k) = values n bs := by
  induction n with
  | zero => intro bs k _; rfl
  | succ n ih =>
    intro bs k hk
    rw [values, values, List.take_take, List.drop_take, ih (bs.drop 4) (k - 4) (by omega), Nat.min_eq_left (by omega)]

theorem spec_take (d : List UInt8) (c : Nat) (idx : Blocktimeindex_Index) (h : spec (d.take c) = some idx) : spec d = some idx := by
  obtain ⟨m, hm, hmag, sb, hs, eb, he, pb, hp, h1, h2, cb, hc, hcap, rfl⟩ := spec_eq_some_iff.mp h
  have h46 := le_of_rd hc
  have hlc := List.length_take_le c d
  refine spec_eq_some_iff.mpr ⟨m, rd_take hm, hmag, sb, rd_take hs, eb, rd_take he, pb, rd_take hp, h1, h2, cb, rd_take hc,
    Nat.le_trans hcap (Nat.div_le_div_right (Nat.sub_le_sub_right (List.length_take_le' c d) 46)), ?_⟩
  rw [List.drop_take, values_take _ _ _ (by omega)]

/-- **C13 on the translated decoder**: a slot-to-blocktime file cut at ANY byte offset is either refused with an
    error or decodes to exactly the index the complete file decodes to (so every lookup answers the same) — it never
    yields another index, never panics.  (`fuel` > number of bytes; files shorter than 2^48 bytes.) -/
theorem truncation_same_or_error (z : Blocktimeindex_Index) (d : List UInt8) (hd : d.length < 2 ^ 48) (cut : Nat)
    (fuel : Nat) (hf : d.length < fuel) :
    (∃ t, btUnmarshal fuel z (d.take cut) = .error (.err t)) ∨ btUnmarshal fuel z (d.take cut) = btUnmarshal fuel z d := by
  have hl : (d.take cut).length ≤ d.length := by rw [List.length_take]; exact Nat.min_le_right ..
  cases hs : spec (d.take cut) with
  | none =>
    have h1 := unmarshal_eq_spec z (d.take cut) (by omega) fuel (by omega)
    rw [hs] at h1; exact Or.inl h1
  | some idx =>
    exact Or.inr ((unmarshal_of_spec z hs (by omega) (by omega)).trans (unmarshal_of_spec z (spec_take d cut idx hs) hd hf).symm)

theorem values_length (n : Nat) (bs : List UInt8) : (values n bs).length = n := by
  induction n generalizing bs with
  | zero => rfl
  | succ n ih => rw [values, List.length_cons, ih]

theorem spec_values_length (d : List UInt8) (idx : Blocktimeindex_Index) (h : spec d = some idx) :
    idx.values.length = idx.capacity.toNat := by
  obtain ⟨_, _, _, _, _, _, _, _, _, _, _, _, _, _, rfl⟩ := spec_eq_some_iff.mp h
  exact values_length _ _

/-- **`Get` on the translated code**: on an index whose value list has the length its capacity says (every index
    `unmarshalBinary` returns), `Get(slot)` answers the stored value for a slot inside `[start, end]` and below the
    capacity, an error otherwise — no panic for any slot. -/
theorem get_eq (i : Blocktimeindex_Index) (slot : UInt64) (hlen : i.values.length = i.capacity.toNat) :
    btGet i slot =
      if slot < i.start ∨ slot > i.end_ ∨ (slot - i.start).toNat ≥ i.values.length then .error (.err "NewErrSlotOutOfRange")
      else .ok (i.values.getD (slot - i.start).toNat 0) := by
  have hge : decide (slot - i.start ≥ Go.u64OfInt (Go.len i.values)) = decide ((slot - i.start).toNat ≥ i.values.length) := by
    have := i.capacity.toNat_lt
    apply decide_eq_decide.mpr
    rw [ge_iff_le, UInt64.le_iff_toNat_le, Go.u64OfInt, Go.len, UInt64.toNat_ofNat', Int.emod_eq_of_lt (by omega) (by omega),
      Int.toNat_natCast, Nat.mod_eq_of_lt (by omega)]
  rw [btGet, hge]
  by_cases h1 : slot < i.start
  · simp [h1]
  by_cases h2 : slot > i.end_
  · simp [h1, h2]
  by_cases h3 : (slot - i.start).toNat ≥ i.values.length
  · simp [h1, h2, h3]
  · simp [h1, h2, h3, idx_natCast i.values _ (Nat.lt_of_not_ge h3)]

/-! ### `marshalBinary` writes the format, and the decoder reads it back -/

/-- the bytes of the value table -/
def encValues : List Int → List UInt8
  | [] => []
  | t :: r => B.le 4 t.toNat ++ encValues r

/-- block times the format can hold (uint32) -/
def ValuesOk (vs : List Int) : Prop := ∀ t ∈ vs, 0 ≤ t ∧ t ≤ 4294967295

theorem toLE_eq (v : UInt64) : uint64ToLEBytes v = .ok (B.le 8 v.toNat) := by
  unfold uint64ToLEBytes
  simp [show Go.makeOf (0 : UInt8) 8 = _ from makeOf_natCast 0 8 (by decide), Go.putLeU64, leEncode_eq_le]

theorem toBytes_eq (t : Int) (h0 : 0 ≤ t) (h1 : t ≤ 4294967295) : btToBytes t = .ok (B.le 4 t.toNat) := by
  have hu : (Go.u32OfInt t).toNat = t.toNat := by
    rw [Go.u32OfInt, UInt32.toNat_ofNat', Int.emod_eq_of_lt h0 (by omega), Nat.mod_eq_of_lt (by omega)]
  have a : ¬ t < 0 := by omega
  have b : ¬ t > 4294967295 := by omega
  simp only [btToBytes, a, b, decide_false, Bool.false_eq_true, if_false, make4, bind_ok, Go.putLeU32, List.length_replicate,
    Nat.le_refl, if_true, leEncode_eq_le, pure_eq_ok, List.drop_replicate, Nat.sub_self, List.replicate_zero, List.append_nil, hu]

theorem marshal_loop_eq (fuel0 : Nat) (i : Blocktimeindex_Index) (vs : List Int) (hv : ValuesOk vs) (hl : vs.length < 2 ^ 62) :
    ∀ (n fuel k : Nat) (w : List UInt8), k + n = vs.length → n < fuel →
      btMarshal.loop1 fuel0 i vs fuel w (k : Int) = .ok (.done (w ++ encValues (vs.drop k), (vs.length : Int))) := by
  intro n
  induction n with
  | zero =>
    intro fuel k w hk hf
    cases fuel with
    | zero => exact absurd hf (Nat.not_lt_zero _)
    | succ f =>
      subst hk
      rw [btMarshal.loop1, if_pos (by simp [Go.len]), List.drop_length, encValues, List.append_nil]; rfl
  | succ n ih =>
    intro fuel k w hk hf
    cases fuel with
    | zero => exact absurd hf (Nat.not_lt_zero _)
    | succ f =>
      have hlt : k < vs.length := by omega
      have hdrop := List.drop_eq_getElem_cons hlt
      obtain ⟨h0, h1⟩ := hv _ (List.getElem_mem hlt)
      rw [btMarshal.loop1, if_neg (by simp [Go.len, hlt]), idx_natCast vs _ hlt, getD_of_drop_eq_cons hdrop, bind_ok]
      simp only [toBytes_eq _ h0 h1, bind_ok]
      rw [wrap64_natCast_succ _ (by omega), ih f (k + 1) _ (by omega) (Nat.lt_of_succ_lt_succ hf), hdrop, encValues, List.append_assoc]

/-- **`marshalBinary` on the translated code**: magic ‖ start ‖ end ‖ epoch ‖ capacity ‖ one uint32 per value, for every
    index whose block times fit the format (`fuel` > number of values) -/
theorem marshal_eq (i : Blocktimeindex_Index) (hv : ValuesOk i.values) (hl : i.values.length < 2 ^ 62) (fuel : Nat)
    (hf : i.values.length < fuel) :
    btMarshal fuel i = .ok (magic ++ B.le 8 i.start.toNat ++ B.le 8 i.end_.toNat ++ B.le 8 i.epoch.toNat ++ B.le 8 i.capacity.toNat
      ++ encValues i.values) := by
  unfold btMarshal
  simp only [toLE_eq, bind_ok, List.nil_append]
  have h := marshal_loop_eq fuel i i.values hv hl i.values.length fuel 0
    (([98, 108, 111, 99, 107, 116, 105, 109, 101, 105, 110, 100, 101, 120] : List UInt8) ++ B.le 8 i.start.toNat ++ B.le 8 i.end_.toNat
      ++ B.le 8 i.epoch.toNat ++ B.le 8 i.capacity.toNat) (Nat.zero_add _) hf
  simp only [Int.natCast_zero, List.drop_zero] at h
  rw [h]
  simp [magic]

theorem values_encValues (vs : List Int) (hv : ValuesOk vs) (rest : List UInt8) :
    values vs.length (encValues vs ++ rest) = vs := by
  induction vs with
  | nil => rfl
  | cons t r ih =>
    have ht := hv t (List.mem_cons_self ..)
    have hr : ValuesOk r := fun x hx => hv x (List.mem_cons_of_mem _ hx)
    simp only [List.length_cons, values, encValues, List.append_assoc]
    have hlen : (B.le 4 t.toNat).length = 4 := B.le_length 4 _
    rw [List.take_append_of_le_length (by omega), List.take_of_length_le (by omega), List.drop_append_of_le_length (by omega),
      List.drop_of_length_le (by omega), List.nil_append, ih hr]
    congr 1
    rw [B.unle_le]
    have : t.toNat % 256 ^ 4 = t.toNat := Nat.mod_eq_of_lt (by omega)
    rw [this]
    have : t.toNat % 4294967296 = t.toNat := Nat.mod_eq_of_lt (by omega)
    rw [this]
    omega

theorem encValues_length (vs : List Int) : (encValues vs).length = 4 * vs.length := by
  induction vs with
  | nil => rfl
  | cons t r ih => simp [encValues, B.le_length, ih]; omega

theorem rd_append_left {a b x : List UInt8} {p n : Nat} (h : rd a p n = some x) : rd (a ++ b) p n = some x := by
  have hle := le_of_rd h
  rw [rd_of_le hle] at h
  rw [rd_of_le (by rw [List.length_append]; omega), List.drop_append_of_le_length (by omega),
    List.take_append_of_le_length (by rw [List.length_drop]; omega), h]

theorem rd_append_right (a x : List UInt8) {p n : Nat} (hp : a.length = p) (hn : x.length = n) : rd (a ++ x) p n = some x := by
  subst hp hn
  rw [rd_of_le (by rw [List.length_append]; exact Nat.le_refl _), List.drop_append_of_le_length (Nat.le_refl _), List.drop_length,
    List.nil_append, List.take_length]

theorem rd_fields (m s e p c v : List UInt8) (hm : m.length = 14) (hs : s.length = 8) (he : e.length = 8) (hp : p.length = 8)
    (hc : c.length = 8) :
    rd (m ++ s ++ e ++ p ++ c ++ v) 0 14 = some m ∧ rd (m ++ s ++ e ++ p ++ c ++ v) 14 8 = some s ∧
    rd (m ++ s ++ e ++ p ++ c ++ v) 22 8 = some e ∧ rd (m ++ s ++ e ++ p ++ c ++ v) 30 8 = some p ∧
    rd (m ++ s ++ e ++ p ++ c ++ v) 38 8 = some c ∧ (m ++ s ++ e ++ p ++ c ++ v).length = 46 + v.length ∧
    (m ++ s ++ e ++ p ++ c ++ v).drop 46 = v := by
  have l1 : (m ++ s).length = 22 := by rw [List.length_append, hm, hs]
  have l2 : (m ++ s ++ e).length = 30 := by rw [List.length_append, l1, he]
  have l3 : (m ++ s ++ e ++ p).length = 38 := by rw [List.length_append, l2, hp]
  have l4 : (m ++ s ++ e ++ p ++ c).length = 46 := by rw [List.length_append, l3, hc]
  refine ⟨?_, ?_, ?_, ?_, ?_, by rw [List.length_append, l4], ?_⟩
  · exact rd_append_left (rd_append_left (rd_append_left (rd_append_left (rd_append_left (rd_append_right [] m rfl hm)))))
  · exact rd_append_left (rd_append_left (rd_append_left (rd_append_left (rd_append_right m s hm hs))))
  · exact rd_append_left (rd_append_left (rd_append_left (rd_append_right _ e l1 he)))
  · exact rd_append_left (rd_append_left (rd_append_right _ p l2 hp))
  · exact rd_append_left (rd_append_right _ c l3 hc)
  · rw [← l4, List.drop_append_of_le_length (Nat.le_refl _), List.drop_length, List.nil_append]

theorem u64_le8 (v : UInt64) : u64 (B.le 8 v.toNat) = v := by
  rw [u64, B.unle_le_of_lt 8 v.toNat v.toNat_lt, UInt64.ofNat_toNat]

theorem spec_encoded (i : Blocktimeindex_Index) (hv : ValuesOk i.values) (hcap : i.values.length = i.capacity.toNat)
    (he1 : i.start / 432000 = i.end_ / 432000) (he2 : i.start / 432000 = i.epoch) :
    spec (magic ++ B.le 8 i.start.toNat ++ B.le 8 i.end_.toNat ++ B.le 8 i.epoch.toNat ++ B.le 8 i.capacity.toNat ++ encValues i.values)
      = some i := by
  obtain ⟨r0, r1, r2, r3, r4, hlen, hdrop⟩ := rd_fields magic (B.le 8 i.start.toNat) (B.le 8 i.end_.toNat) (B.le 8 i.epoch.toNat)
    (B.le 8 i.capacity.toNat) (encValues i.values) rfl (B.le_length ..) (B.le_length ..) (B.le_length ..) (B.le_length ..)
  refine spec_eq_some_iff.mpr ⟨_, r0, rfl, _, r1, _, r2, _, r3, ?_, ?_, _, r4, ?_, ?_⟩
  · rw [u64_le8, u64_le8]; exact he1
  · rw [u64_le8, u64_le8]; exact he2
  · rw [u64_le8, hlen, encValues_length, ← hcap]; omega
  · have hvals := values_encValues i.values hv []
    rw [List.append_nil] at hvals
    rw [u64_le8, u64_le8, u64_le8, u64_le8, hdrop, ← hcap, hvals]

/-- **round trip on the translated code** (C01: the block time recorded for a slot is the one read back): what
    `marshalBinary` writes for an index — value list as long as the capacity, start/end/epoch consistent, block times
    within uint32 — `unmarshalBinary` decodes to that very index. -/
theorem unmarshal_marshal (z i : Blocktimeindex_Index) (hv : ValuesOk i.values) (hcap : i.values.length = i.capacity.toNat)
    (hl : i.values.length < 2 ^ 40) (he1 : i.start / 432000 = i.end_ / 432000) (he2 : i.start / 432000 = i.epoch)
    (fuel : Nat) (hf : 46 + 4 * i.values.length < fuel) :
    (btMarshal fuel i >>= btUnmarshal fuel z) = .ok i := by
  rw [marshal_eq i hv (by omega) fuel (by omega), bind_ok]
  have hlen := ((rd_fields magic (B.le 8 i.start.toNat) (B.le 8 i.end_.toNat) (B.le 8 i.epoch.toNat) (B.le 8 i.capacity.toNat)
    (encValues i.values) rfl (B.le_length ..) (B.le_length ..) (B.le_length ..) (B.le_length ..)).2.2.2.2.2.1).trans
    (congrArg (46 + ·) (encValues_length i.values))
  exact unmarshal_of_spec z (spec_encoded i hv hcap he1 he2) (by rw [hlen]; omega) (by rw [hlen]; exact hf)

/-! ### non-vacuity: a concrete file, decoded by the translated code -/

def sample : List UInt8 :=
  magic ++ B.le 8 432000 ++ B.le 8 432001 ++ B.le 8 1 ++ B.le 8 2 ++ [1, 0, 0, 0, 0x78, 0x56, 0x34, 0x12]

def sampleIdx : Blocktimeindex_Index := { start := 432000, end_ := 432001, epoch := 1, capacity := 2, values := [1, 0x12345678] }

theorem spec_sample : spec sample = some sampleIdx := by decide +kernel

theorem spec_sample_cut : spec (sample.take 50) = none := by decide +kernel

/-- the translated decoder run on the sample file (through the theorem: hypotheses satisfiable, result as expected) -/
example : btUnmarshal 100 Blocktimeindex_Index.zero sample = .ok sampleIdx :=
  unmarshal_of_spec _ spec_sample (by decide) (by decide)

example : ∃ t, btUnmarshal 100 Blocktimeindex_Index.zero (sample.take 50) = .error (.err t) := by
  have h := unmarshal_eq_spec Blocktimeindex_Index.zero (sample.take 50) (by decide) 100 (by decide)
  rw [spec_sample_cut] at h; exact h

example : btGet sampleIdx 432001 = .ok 0x12345678 := by
  rw [get_eq sampleIdx 432001 (by decide)]; rfl

end GoTies.BT
