import Faithful.Generated.GoFns
import Faithful.Lib.CompactIndex
import Faithful.Lib.CompactIndexBytes
import Faithful.Ties.Basic
import Faithful.Ties.CILookup
import Faithful.Ties.CIOpen
import Faithful.Properties.C04
/-!
C04 bridge: `lookupSpec` (what the translated `DB.Lookup` computes, `Ties/CILookup.lean`) is the model's byte-level
reader `CI.lookupB` (the function `lookupB_encode`, `build_lookup`, `lookup_sound` of C04 are stated about), for value
sizes up to 252 and bucket headers with a hash length up to 3 — i.e. for every file the format's own reader accepts.
-/
namespace GoTies.CIModel
open Go Generated.G GoTies GoTies.BkHas GoTies.CILookup

theorem searchB_congr (g1 g2 : Nat → Option CI.Ent) (x max : Nat) (h : ∀ i, i < max → g1 i = g2 i) :
    ∀ (f n : Nat), CI.searchB g1 x max f n = CI.searchB g2 x max f n := by
  intro f n
  fun_induction CI.searchB g2 x max f n with
  | case1 => rfl
  | case2 f n hn hg => rw [CI.searchB, if_pos hn, h n hn, hg]
  | case3 f n hn e hg he => rw [CI.searchB, if_pos hn, h n hn, hg]; exact if_pos he
  | case4 f n hn e hg he ih => rw [CI.searchB, if_pos hn, h n hn, hg]; exact (if_neg he).trans ih
  | case5 f n hn => rw [CI.searchB, if_neg hn]

theorem searchB_ge (get : Nat → Option CI.Ent) (x max f n : Nat) (h : max ≤ n) : CI.searchB get x max f n = .notFound := by
  cases f with
  | zero => rfl
  | succ f => rw [CI.searchB, if_neg (Nat.not_lt.mpr h)]

/-- the search does not depend on the fuel once the fuel exceeds what is left of the table -/
theorem searchB_fuel (get : Nat → Option CI.Ent) (x max : Nat) :
    ∀ (f1 f2 n : Nat), max < n + f1 → max < n + f2 → CI.searchB get x max f1 n = CI.searchB get x max f2 n := by
  intro f1 f2 n h1 h2
  rw [C04.searchB_eq_walk, C04.searchB_eq_walk, EytzTie.walk_fuel get Prod.fst x max f1 f2 n h1 h2]

/-- the mask of `BucketHeader.Hash` (uint8 arithmetic in the shift count) is the model's mask, for hash lengths 0..3 -/
theorem mask_eq (v : UInt8) (hv : v.toNat ≤ 3) :
    (Go.shr64 18446744073709551615 ((64 : UInt8) - v * 8).toNat).toNat =
      (if (64 + 256 - (v.toNat * 8) % 256) % 256 ≥ 64 then 0 else (2 ^ 64 - 1) / 2 ^ ((64 + 256 - (v.toNat * 8) % 256) % 256)) := by
  have hc : v = 0 ∨ v = 1 ∨ v = 2 ∨ v = 3 := by
    have h : v.toNat = 0 ∨ v.toNat = 1 ∨ v.toNat = 2 ∨ v.toNat = 3 := by omega
    rcases h with h | h | h | h
    · left; exact UInt8.toNat_inj.mp h
    · right; left; exact UInt8.toNat_inj.mp h
    · right; right; left; exact UInt8.toNat_inj.mp h
    · right; right; right; exact UInt8.toNat_inj.mp h
  rcases hc with rfl | rfl | rfl | rfl <;> decide

/-- how a verdict of the model's reader reads as a result of `DB.Lookup` -/
def Rel : CI.Look → M (List UInt8 × Go.Error) → Prop
  | .found v, r => r = .ok (v, Go.Error.nil)
  | .notFound, r => r = .ok ([], Go.Error.other "ErrNotFound")
  | .err, r => ∃ e, e ≠ Go.Error.nil ∧ e ≠ Go.Error.other "ErrNotFound" ∧ r = .ok ([], e)
  | .hang, _ => False

theorem searchB_no_hang (get : Nat → Option CI.Ent) (x max : Nat) : ∀ (f n : Nat), CI.searchB get x max f n ≠ .hang := by
  intro f n
  fun_induction CI.searchB get x max f n
  case case4 ih => exact ih
  all_goals nofun

theorem rel_err {e : Go.Error} (h1 : e ≠ Go.Error.nil) (h2 : e ≠ Go.Error.other "ErrNotFound") : Rel .err (.ok ([], e)) :=
  ⟨e, h1, h2, rfl⟩

theorem rel_search (g1 g2 : Nat → Option CI.Ent) (tg ne fuel : Nat) (hg : ∀ i, i < ne → g1 i = g2 i) (hf : ne < fuel) :
    Rel (CI.searchB g1 tg ne (ne + 1) 0) (lookToRes (CI.searchB g2 tg ne fuel 0)) := by
  rw [searchB_congr g1 g2 tg ne hg, searchB_fuel g2 tg ne (ne + 1) fuel 0 (by omega) (by omega)]
  cases hsr : CI.searchB g2 tg ne fuel 0 with
  | found v => exact rfl
  | notFound => exact rfl
  | err => exact rel_err nofun (by decide)
  | hang => exact absurd hsr (searchB_no_hang _ _ _ _ _)

/-- the entry getter of `CI.lookupB`: entry `idx` of the `ne` strides of `s` bytes from `fo` (a section reader's view) -/
def getB (l : List UInt8) (fo s hln ow ne : Nat) : Nat → Option CI.Ent := fun idx =>
  if idx * s + s > ne * s then none else
    match CI.rd l.toArray (fo + idx * s) s with
    | none => none
    | some eb => some (B.unle (eb.take hln), (eb.drop hln).take ow)

theorem getB_eq_getE (l : List UInt8) (fo s hln ow ne idx : Nat) (h : idx < ne) : getB l fo s hln ow ne idx = getE l fo s hln ow idx := by
  have hmul : idx * s + s ≤ ne * s := by rw [← Nat.succ_mul]; exact Nat.mul_le_mul_right s h
  unfold getB getE
  rw [if_neg (Nat.not_lt.mpr hmul), CI.rd_toArray]
  by_cases hin : fo + idx * s + s ≤ l.length
  · rw [if_pos hin, if_pos hin]; rfl
  · rw [if_neg hin, if_neg hin]

/-- what `CI.lookupB` does with the 16 bytes `bh` of a bucket header it could read: the search over the bucket's entries -/
def searchBucketB (hf : CI.HF) (l : List UInt8) (vs : Nat) (bh key : List UInt8) : CI.Look :=
  CI.searchB (getB l (B.unle (B.slice bh 10 6)) (CI.stride vs) (bh.getD 8 0).toNat (vs % 256) (B.unle (B.slice bh 4 4)))
    (hf.entry64 (B.unle (B.slice bh 0 4)) key &&&
      (if (64 + 256 - ((bh.getD 8 0).toNat * 8) % 256) % 256 ≥ 64 then 0
       else (2 ^ 64 - 1) / 2 ^ ((64 + 256 - ((bh.getD 8 0).toNat * 8) % 256) % 256)))
    (B.unle (B.slice bh 4 4)) (B.unle (B.slice bh 4 4) + 1) 0

/-- `CI.lookupB` for bucket number `i`: out of range, header unreadable, or the search over the bucket -/
theorem lookupB_eq (hf : CI.HF) (l : List UInt8) (vs nb hs i : Nat) (m : List (List UInt8 × List UInt8)) (key : List UInt8)
    (hb : hf.bucket key nb = some i) :
    CI.lookupB hf l.toArray ⟨vs, nb, hs, m⟩ key =
      if i ≥ nb then .err
      else if hs + 16 * i + 16 ≤ l.length then searchBucketB hf l vs ((l.drop (hs + 16 * i)).take 16) key else .err := by
  unfold CI.lookupB
  rw [hb]
  dsimp only
  rw [show Generated.bucketHdrLen = 16 from rfl, CI.rd_toArray]
  by_cases hr : i ≥ nb
  · rw [if_pos hr, if_pos hr]
  · rw [if_neg hr, if_neg hr]
    by_cases hh : hs + 16 * i + 16 ≤ l.length
    · rw [if_pos hh, if_pos hh]; rfl
    · rw [if_neg hh, if_neg hh]

/-- the search the translated reader runs on a bucket header with hash length ≤ 3 answers as the model's -/
theorem rel_searchBucket (hf : CI.HF) (eh : UInt32 → List UInt8 → UInt64) (heh : ∀ n k, (eh n k).toNat = hf.entry64 n.toNat k)
    (l : List UInt8) (vs : Nat) (hvs : vs ≤ 252) (b : Compactindexsized_BucketHeader) (bh key : List UInt8)
    (h3 : (bh.getD 8 0).toNat ≤ 3) (fuel : Nat) (hfu : 2 ^ 32 ≤ fuel) :
    Rel (searchBucketB hf l vs bh key)
      (lookToRes (CI.searchB (getE l (hdrOf b bh).FileOffset.toNat (3 + vs) (hdrOf b bh).HashLen.toNat vs)
        (targetOf eh (hdrOf b bh) key).toNat (hdrOf b bh).NumEntries.toNat fuel 0)) := by
  have hstr : CI.stride vs = 3 + vs := by
    rw [CI.stride, show Generated.hashSize = 3 from rfl, Nat.mod_eq_of_lt (show vs < 256 by omega), Nat.mod_eq_of_lt (by omega)]
  rw [targetOf, UInt64.toNat_and, heh, mask_eq (hdrOf b bh).HashLen h3, hdrOf_numEntries, hdrOf_fileOffset, hdrOf_hashDomain, searchBucketB, hstr,
    Nat.mod_eq_of_lt (show vs < 256 by omega)]
  exact rel_search _ _ _ _ fuel (fun idx h => getB_eq_getE l _ _ _ _ _ idx h)
    (Nat.lt_of_lt_of_le (unle_take_lt (bh.drop 4) 4) hfu)

/-- **bridge**: what the translated `DB.Lookup` computes (`lookupSpec`) is the model's byte-level reader `CI.lookupB`, for
    every file, header size, bucket count, key and pair of hash functions, when the value size is at most 252 and the
    bucket header (if readable) has a hash length of at most 3 -/
theorem lookupSpec_rel_lookupB (hf : CI.HF) (eh : UInt32 → List UInt8 → UInt64) (l : List UInt8)
    (hs vs nb i : Nat) (m : List (List UInt8 × List UInt8)) (key : List UInt8) (fuel : Nat)
    (hvs : vs ≤ 252) (hb : hf.bucket key nb = some i)
    (heh : ∀ n k, (eh n k).toNat = hf.entry64 n.toNat k)
    (hhl : i < nb → hs + 16 * i + 16 ≤ l.length → (((l.drop (hs + 16 * i)).take 16).getD 8 0).toNat ≤ 3)
    (hfu : 2 ^ 32 ≤ fuel) :
    Rel (CI.lookupB hf l.toArray ⟨vs, nb, hs, m⟩ key) (lookupSpec eh l hs (UInt64.ofNat vs) nb i key fuel) := by
  have hvsn : (UInt64.ofNat vs).toNat = vs := u64_toNat vs (by omega)
  have hvs8 : (UInt64.ofNat vs).toUInt8.toNat = vs := by rw [UInt64.toNat_toUInt8, hvsn]; exact Nat.mod_eq_of_lt (by omega)
  rw [lookupB_eq hf l vs nb hs i m key hb, lookupSpec]
  refine ite_rel (R := Rel) (fun _ => rel_err nofun (by decide)) fun hr => ?_
  rw [hvsn, if_neg (Nat.not_lt.mpr hvs)]
  refine ite_rel (R := Rel) (fun hh => ?_) fun _ => rel_err nofun (by decide)
  have h3 := hhl (Nat.lt_of_not_le hr) hh
  rw [if_neg (show ¬ (hdrOf _ ((l.drop (hs + 16 * i)).take 16)).HashLen.toNat > 3 from Nat.not_lt.mpr h3), hvs8]
  exact rel_searchBucket hf eh heh l vs hvs _ _ key h3 fuel hfu

/-- in a file the model's encoder writes, every bucket header carries hash length 3 -/
theorem encoded_hashLen (ix : CI.IndexA) (ok : CI.EncOk ix) (i : Nat) (hi : i < ix.numBuckets)
    (hh : (CI.headerBytes ix.valueSize ix.numBuckets ix.metaKVs).length + 16 * i + 16 ≤ (CI.encode ix).length) :
    ((((CI.encode ix).drop ((CI.headerBytes ix.valueSize ix.numBuckets ix.metaKVs).length + 16 * i)).take 16).getD 8 0).toNat ≤ 3 := by
  have hF : CI.encode ix = (CI.headerBytes ix.valueSize ix.numBuckets ix.metaKVs ++
      CI.tableFrom ix.valueSize ix.buckets ((CI.headerBytes ix.valueSize ix.numBuckets ix.metaKVs).length + 16 * ix.buckets.length))
      ++ ix.buckets.flatMap (CI.bucketBody ix.valueSize) := by
    rw [CI.encode, ok.len]; rfl
  have hib : i < ix.buckets.length := by rw [ok.len]; exact hi
  obtain ⟨off, _, hrd, _⟩ := CI.bucket_reads _ ix.valueSize ix.buckets (CI.encode ix) hF ok.size i hib
  rw [CI.rd_toArray, if_pos hh] at hrd
  have hs : B.slice (CI.encode ix) ((CI.headerBytes ix.valueSize ix.numBuckets ix.metaKVs).length + 16 * i) 16
      = CI.bucketHeader (ix.buckets[i]'hib) off := Option.some.inj hrd
  have : ((CI.encode ix).drop ((CI.headerBytes ix.valueSize ix.numBuckets ix.metaKVs).length + 16 * i)).take 16
      = CI.bucketHeader (ix.buckets[i]'hib) off := hs
  rw [this, CI.bucketHeader_hashLen]
  omega

/-- **C04 on the code in the tree**: on the file the model's encoder writes for an index (`CI.encode ix`, compared byte for
    byte with the real builder's files on every run), the translated `DB.Lookup` answers what the abstract reader
    `CI.lookupA` answers — the inserted value for an inserted key (`build_lookup`), `ErrNotFound` for a key whose hash is
    not in its bucket — for every index within the format's limits, every key, both hash functions arbitrary -/
theorem gen_lookup_on_encoded (hf : CI.HF) (xx : List UInt8 → UInt64) (eh : UInt32 → List UInt8 → UInt64)
    (ix : CI.IndexA) (ok : CI.EncOk ix) (hv : CI.ValsOk ix) (key : List UInt8) (fuel : Nat) (i : Nat)
    (db : Compactindexsized_DB)
    (hS : db.Stream = memRd (CI.encode ix))
    (hH : db.headerSize = ((CI.headerBytes ix.valueSize ix.numBuckets ix.metaKVs).length : Int))
    (hV : db.Header.ValueSize = UInt64.ofNat ix.valueSize) (hN : db.Header.NumBuckets = UInt32.ofNat ix.numBuckets)
    (hb : hf.bucket key ix.numBuckets = some i)
    (hbh : ciBucketHash xx fuel db.Header key = .ok (UInt64.ofNat i))
    (heh : ∀ n k, (eh n k).toNat = hf.entry64 n.toNat k) (hfu : 2 ^ 32 ≤ fuel) (hi64 : i < 2 ^ 64) :
    Rel (CI.lookupA hf ix key) (ciDBLookup xx eh fuel db key) := by
  have hvs252 : ix.valueSize ≤ 252 := by have := ok.vs_le; have : Generated.hashSize = 3 := by decide
                                         omega
  have hsz := ok.size
  have hHd : (CI.headerBytes ix.valueSize ix.numBuckets ix.metaKVs).length ≤ (CI.encode ix).length := by
    unfold CI.encode; simp only [List.length_append]; omega
  have hne0 : db.Header.ValueSize ≠ 0 := by
    rw [hV]; intro hc
    have h1 := congrArg UInt64.toNat hc
    have hlt : ix.valueSize < 2 ^ 64 := by omega
    rw [UInt64.toNat_ofNat', Nat.mod_eq_of_lt hlt] at h1
    have h2 := ok.vs_pos
    have h0 : (0 : UInt64).toNat = 0 := rfl
    rw [h0] at h1
    omega
  have e48 : (2 : Nat) ^ 48 < 2 ^ 62 := by decide
  rw [gen_ciDBLookup_eq_spec xx eh fuel db (CI.encode ix) _ key (UInt64.ofNat i) hS hH hne0 (by omega) hfu hbh]
  have hin : (UInt64.ofNat i).toNat = i := by rw [UInt64.toNat_ofNat']; exact Nat.mod_eq_of_lt hi64
  have hnn : (UInt32.ofNat ix.numBuckets).toNat = ix.numBuckets := by
    rw [UInt32.toNat_ofNat']; exact Nat.mod_eq_of_lt ok.nb_lt
  rw [hV, hN, hnn, hin, ← CI.lookupB_encode hf ix ok hv key]
  exact lookupSpec_rel_lookupB hf eh (CI.encode ix) _ ix.valueSize ix.numBuckets i ix.metaKVs key fuel hvs252 hb heh
    (fun hi hh => encoded_hashLen ix ok i hi hh) hfu

theorem openSpec_headerBytes_append (vs nb : Nat) (m : IndexMeta.KVs) (rest : List UInt8) (hvs : 0 < vs) (hvs2 : vs < 2 ^ 64)
    (hnb : 0 < nb) (hnb2 : nb < 2 ^ 32) (hml : m.length ≤ 255) (hm : ∀ kv ∈ m, kv.1.length ≤ 255 ∧ kv.2.length ≤ 255) :
    CIOpen.openSpec (CI.headerBytes vs nb m ++ rest) = some (vs, nb, m, (CI.headerBytes vs nb m).length) := by
  have hmb := CI.metaBytes_length_le m hm
  have hlen : (CI.headerBytes vs nb m).length = 12 + (13 + (CI.metaBytes m).length) := by rw [CI.headerBytes_length]; omega
  have hH : CI.headerBytes vs nb m ++ rest = CI.magic ++ (B.le 4 (13 + (CI.metaBytes m).length) ++
      (B.le 8 vs ++ (B.le 4 nb ++ 1 :: (CI.metaBytes m ++ rest)))) := by
    rw [CIHeader.headerBytes_layout]; simp only [List.append_assoc, List.cons_append]
  obtain ⟨t8, f4, -⟩ := CIHeader.layout_fields _ _ _ _ 1 (B.le_length ..) (B.le_length ..) (B.le_length ..) _ hH
  unfold CIOpen.openSpec
  rw [if_neg (by rw [List.length_append, hlen]; omega), t8, if_neg (fun h => h rfl), f4,
    B.unle_le_of_lt 4 _ (by rw [CI.pow4]; omega)]
  dsimp only
  rw [if_neg (by omega), if_neg (by rw [List.length_append, hlen]; omega), List.take_left' hlen,
    CIHeader.loadSpec_headerBytes vs nb m hvs hvs2 hnb hnb2 hml hm, hlen]

/-- **C04 end to end on the translated reader**: on the file the model's encoder writes for an index (compared byte for
    byte with the real builder's files on every run), the translated `Open` returns a DB with a nil error, and the
    translated `DB.Lookup` on that DB answers what the abstract reader `CI.lookupA` answers — the inserted value for every
    inserted key (`build_lookup`), `ErrNotFound` when the key's hash is not in its bucket -/
theorem gen_open_lookup_on_encoded (hf : CI.HF) (xx : List UInt8 → UInt64) (eh : UInt32 → List UInt8 → UInt64)
    (ix : CI.IndexA) (ok : CI.EncOk ix) (hv : CI.ValsOk ix) (key : List UInt8) (fuel : Nat) (i : Nat)
    (hb : hf.bucket key ix.numBuckets = some i)
    (hbh : ciBucketHash xx fuel { ValueSize := UInt64.ofNat ix.valueSize, NumBuckets := UInt32.ofNat ix.numBuckets,
                                  Metadata := C10.ofKvs ix.metaKVs } key = .ok (UInt64.ofNat i))
    (heh : ∀ n k, (eh n k).toNat = hf.entry64 n.toNat k) (hfu : 2 ^ 32 ≤ fuel) (hi64 : i < 2 ^ 64) :
    ∃ db, ciOpen fuel (memRd (CI.encode ix)) = .ok (db, Go.Error.nil) ∧
      Rel (CI.lookupA hf ix key) (ciDBLookup xx eh fuel db key) := by
  have hlen : (CI.encode ix).length < 2 ^ 62 := Nat.lt_trans ok.size (by decide)
  have hos : CIOpen.openSpec (CI.encode ix)
      = some (ix.valueSize, ix.numBuckets, ix.metaKVs, (CI.headerBytes ix.valueSize ix.numBuckets ix.metaKVs).length) := by
    rw [CI.encode, List.append_assoc]
    exact openSpec_headerBytes_append ix.valueSize ix.numBuckets ix.metaKVs _ ok.vs_pos
      (Nat.lt_of_le_of_lt ok.vs_le (by decide)) ok.nb_pos ok.nb_lt ok.meta_n ok.meta_kv
  refine ⟨_, (CIOpen.open_realizes _ fuel (by omega) hlen).1 _ hos, ?_⟩
  exact gen_lookup_on_encoded hf xx eh ix ok hv key fuel i _ rfl rfl rfl rfl hb hbh heh hfu hi64

/-- **C04 from the builder's inputs to the translated reader's answer**: whatever set of key/value pairs the (model)
    builder accepts — any insertion order, any declared count, any metadata within the limits — translated `Open` on the
    sealed file succeeds and translated `DB.Lookup` returns, with a nil error, exactly the value inserted with each key.
    Hypotheses on the two hash functions only say that the translated code and the model use the same ones. -/
theorem gen_build_open_lookup (hf : CI.HF) (xx : List UInt8 → UInt64) (eh : UInt32 → List UInt8 → UInt64)
    (vs declared : Nat) (m : List (B.Bytes × B.Bytes)) (kvs : List CI.KV) (ix : CI.IndexA)
    (h : CI.buildA hf vs declared m kvs = .ok ix) (hm : CI.MetaOk m) (hvs : vs ≤ 255 - Generated.hashSize)
    (hnb : CI.numBucketsFor declared < 2 ^ 32) (hn : kvs.length < 2 ^ 32) (hval : ∀ kv ∈ kvs, kv.val.length = vs)
    (kv : CI.KV) (hkv : kv ∈ kvs) (fuel i : Nat)
    (hb : hf.bucket kv.key ix.numBuckets = some i)
    (hbh : ciBucketHash xx fuel { ValueSize := UInt64.ofNat ix.valueSize, NumBuckets := UInt32.ofNat ix.numBuckets,
                                  Metadata := C10.ofKvs ix.metaKVs } kv.key = .ok (UInt64.ofNat i))
    (heh : ∀ n k, (eh n k).toNat = hf.entry64 n.toNat k) (hfu : 2 ^ 32 ≤ fuel) (hi64 : i < 2 ^ 64) :
    ∃ db, ciOpen fuel (memRd (CI.encode ix)) = .ok (db, Go.Error.nil) ∧
      ciDBLookup xx eh fuel db kv.key = .ok (kv.val, Go.Error.nil) := by
  have ok := CI.encOk_of_build hf vs declared m kvs ix h hm hvs hnb hn
  have hv := CI.valsOk_of_build hf vs declared m kvs ix h hval
  obtain ⟨db, hopen, hrel⟩ := gen_open_lookup_on_encoded hf xx eh ix ok hv kv.key fuel i hb hbh heh hfu hi64
  rw [_root_.C04.build_lookup hf vs declared m kvs ix h kv hkv] at hrel
  exact ⟨db, hopen, hrel⟩

/-! non-vacuity of `gen_build_open_lookup`: a toy pair of hash functions shared by model and translated code, one key with
    a 9-byte value, one metadata pair, three buckets — every hypothesis is met and the translated reader returns the value -/
def exHF : CI.HF := ⟨fun k n => if n = 0 then none else some (k.length % n), fun nonce k => (k.length * 7 + nonce) % 2 ^ 64⟩
def exXX : List UInt8 → UInt64 := fun k => UInt64.ofNat k.length
def exEH : UInt32 → List UInt8 → UInt64 := fun n k => UInt64.ofNat ((k.length * 7 + n.toNat) % 2 ^ 64)

example : ∃ ix db, CI.buildA exHF 9 25000 [([1], [2, 3])] [⟨[4, 5], [1, 2, 3, 4, 5, 6, 7, 8, 9]⟩] = .ok ix ∧
    ciOpen (2 ^ 32) (memRd (CI.encode ix)) = .ok (db, Go.Error.nil) ∧
    ciDBLookup exXX exEH (2 ^ 32) db [4, 5] = .ok ([1, 2, 3, 4, 5, 6, 7, 8, 9], Go.Error.nil) := by
  obtain ⟨ix, h⟩ := _root_.C04.build_singleton_ok exHF 9 25000 [([1], [2, 3])] ⟨[4, 5], [1, 2, 3, 4, 5, 6, 7, 8, 9]⟩
    (by omega) (by omega) 2 (by decide) (by decide)
  obtain ⟨f1, f2, f3, _⟩ := CI.buildA_ok exHF 9 25000 _ _ ix h
  have hnb : ix.numBuckets = 3 := by rw [f2]; decide
  have hm : CI.MetaOk [([1], [2, 3])] := by
    refine ⟨by decide, ?_⟩
    intro kv hkv
    simp only [List.mem_cons, List.mem_nil_iff, or_false] at hkv
    subst hkv; decide
  have heh : ∀ n k, (exEH n k).toNat = exHF.entry64 n.toNat k := by
    intro n k
    show (UInt64.ofNat ((k.length * 7 + n.toNat) % 2 ^ 64)).toNat = (k.length * 7 + n.toNat) % 2 ^ 64
    rw [UInt64.toNat_ofNat']
    exact Nat.mod_mod _ _
  obtain ⟨db, ho, hl⟩ := gen_build_open_lookup exHF exXX exEH 9 25000 _ _ ix h hm (by decide) (by decide) (by decide)
    (by intro kv hkv; simp only [List.mem_cons, List.mem_nil_iff, or_false] at hkv; subst hkv; rfl)
    ⟨[4, 5], [1, 2, 3, 4, 5, 6, 7, 8, 9]⟩ (by simp) (2 ^ 32) 2
    (by rw [hnb]; rfl) (by rw [hnb, f1, f3]; rfl) heh (Nat.le_refl _) (by decide)
  exact ⟨ix, db, h, ho, hl⟩
end GoTies.CIModel
