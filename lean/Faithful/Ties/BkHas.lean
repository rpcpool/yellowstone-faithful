import Faithful.Generated.GoFns
import Faithful.Lib.Bucketteer
import Faithful.Ties.Basic
import Faithful.Ties.C05
/-!
C05 tie: the whole read path of the signature-existence index, `bucketteer.Reader.Has` (`read.go`), translated from
/repo's working tree on every run — the prefix table lookup, the `math.MaxUint64` sentinel, the 4-byte count read, the
`io.SectionReader` over `numHashes*8` bytes (product in uint32), the getter closure over `readUint64Le`, `searchEytzinger`,
the `errors.Is(err, ErrNotFound)` dispatch — computes `hasSpec` over an in-memory content reader, for every content,
every prefix table, every signature and every hash function.

The content reader is `memRd c` (what `bytes.Reader.ReadAt` / `mmap.ReaderAt.ReadAt` do over the bytes `c`: the io.ReaderAt
contract with io.EOF on a short read).  The hash `xxhash.Sum64` is a parameter.
-/
namespace GoTies.BkHas
open Go Generated.G GoTies GoTies.C05

/-- the entry getter the model's search uses -/
def getSpec (c : List UInt8) (base n : Nat) : Nat → Option Nat := fun i =>
  if i * 8 + 8 ≤ n then
    (if base + i * 8 + 8 ≤ c.length then some (B.unle ((c.drop (base + i * 8)).take 8)) else none)
  else none

/-- `Reader.Has` over the content bytes `c` (the file after the header), for prefix number `p` and wanted hash `x` -/
def hasSpec (c : List UInt8) (table : List UInt64) (p : Nat) (x : Nat) (fuel : Nat) : BK.Res :=
  let off := (table.getD p 0).toNat
  if off = 2 ^ 64 - 1 then .no
  else if off ≥ 2 ^ 63 then .err
  else if off + 4 > c.length then .err
  else
    let nb := B.unle ((c.drop off).take 4)
    BK.searchB (getSpec c (off + 4) ((nb * 8) % 2 ^ 32)) x nb fuel 0

/-- `C05.bkSearchEytzinger_eq_model` restated under a name of its own: its `match` is the matcher (`search_eq.match_1`) that
    the statement of `getter_eq` and the definition `TableRep` mention. -/
theorem search_eq (get : Nat → Option Nat) (x : UInt64) (max : Nat) (hmax : max < 2 ^ 62) (ioErr : Err)
    (getter : Int → M UInt64) (fuel : Nat) (hf : max < fuel)
    (hget : ∀ i : Nat, i < max → getter (i : Int) = match get i with | none => .error ioErr | some k => .ok (UInt64.ofNat k))
    (hr : ∀ i k, get i = some k → k < 2 ^ 64) :
    bkSearchEytzinger fuel 0 (max : Int) x getter = resToM x ioErr (BK.searchB get x.toNat max fuel 0) :=
  bkSearchEytzinger_eq_model get x max hmax ioErr getter fuel hf (fun i hi => by rw [hget i hi]; cases get i <;> rfl) hr

/-- the getter closure of `Has` -/
def getterOf (bucketReader : Go.ReaderAt) : Int → M UInt64 := fun index =>
  bkReadUint64Le bucketReader (Go.wrap64 (index * 8)) >>= fun t =>
  if (t.2 != Go.Error.nil) = true then throw (Err.err (Go.Error.tag t.2)) else pure t.1

/-- `Has` from the bucket's count on -/
def hasSearchM (xx : List UInt8 → UInt64) (fuel : Nat) (cr : Go.ReaderAt) (sig : List UInt8) (offset : UInt64)
    (numHashes : UInt32) : M (Bool × Go.Error) :=
  bkHash xx sig >>= fun wantedHash =>
  Go.catchErr (bkSearchEytzinger fuel 0 (numHashes.toNat : Int) wantedHash
      (getterOf (Go.sectionReader cr (Go.wrap64 (Go.intOfU64 offset + 4)) ((numHashes * 8).toNat : Int)))) 0 >>= fun t10 =>
  if (t10.2 != Go.Error.nil) = true then
    (if (Go.Error.is t10.2 (Go.Error.other "ErrNotFound")) = true then pure (false, Go.Error.nil) else pure (false, t10.2))
  else pure ((t10.1 == wantedHash), Go.Error.nil)

/-- `Has` from the table entry on -/
def hasAtM (xx : List UInt8 → UInt64) (fuel : Nat) (cr : Go.ReaderAt) (sig : List UInt8) (offset : UInt64) :
    M (Bool × Go.Error) :=
  if (offset == (18446744073709551615 : UInt64)) = true then pure (false, Go.Error.nil) else
  Go.makeOf (0 : UInt8) 4 >>= fun t5 =>
  let t6 := cr (Go.len t5) (Go.intOfU64 offset)
  if (t6.2 != Go.Error.nil) = true then pure (false, t6.2) else
  Go.leU32 (t6.1 ++ t5.drop t6.1.length) >>= hasSearchM xx fuel cr sig offset

def hasM (xx : List UInt8 → UInt64) (fuel : Nat) (r : Bucketteer_Reader) (sig : List UInt8) : M (Bool × Go.Error) :=
  Go.idx sig 0 >>= fun t1 =>
  Go.idx sig 1 >>= fun t2 =>
  bkPrefixToUint16 [t1, t2] >>= fun t4 =>
  Go.idx r.prefixToOffset (t4.toNat : Int) >>= hasAtM xx fuel r.contentReader sig

theorem has_unfold (xx : List UInt8 → UInt64) (fuel : Nat) (r : Bucketteer_Reader) (sig : List UInt8) :
    bkReaderHas xx fuel r sig = hasM xx fuel r sig := rfl

/-- the model's verdict as a result of the translated `Has`.  `casesOn`, not `match`: a `match` here would name the matcher in
    the statements of `gen_bkReaderHas_eq_spec` and `gen_bkReaderHas_eq_hasB`. -/
def Verdict (v : BK.Res) (r : M (Bool × Go.Error)) : Prop :=
  BK.Res.casesOn (motive := fun _ => Prop) v (r = .ok (true, Go.Error.nil)) (r = .ok (false, Go.Error.nil))
    (∃ e, e ≠ Go.Error.nil ∧ r = .ok (false, e))

theorem readU64_eq (rdr : Go.ReaderAt) (pos : Int) :
    bkReadUint64Le rdr pos =
      if ((rdr (8 : Nat) pos).2 != Go.Error.nil) = true then .ok (0, (rdr (8 : Nat) pos).2)
      else (Go.leU64 ((rdr (8 : Nat) pos).1 ++ (List.replicate 8 (0 : UInt8)).drop (rdr (8 : Nat) pos).1.length) >>= fun v =>
        pure (v, Go.Error.nil)) := by
  have hmk : Go.makeOf (0 : UInt8) 8 = .ok (List.replicate 8 0) := makeOf_natCast 0 8 (by omega)
  unfold bkReadUint64Le
  rw [hmk, bind_ok]
  rfl

abbrev ReadsLike (cr : Go.ReaderAt) (c : List UInt8) : Prop :=
  ∀ (n : Int) (k : Nat), 0 ≤ n → n < 2 ^ 62 → cr n (k : Int) = memRd c n (k : Int)

/-- `SectionReader.ReadAt` at a natural offset, for a section that holds `L` bytes from `base`: io.EOF past the section, a
    read reaching past its end clipped to it, otherwise the underlying reader at `base + off` -/
theorem section_nat (cr : Go.ReaderAt) (base L off : Nat) (n len : Int)
    (hL : (if (base : Int) ≤ 9223372036854775807 - n then (base : Int) + n else 9223372036854775807) = ((base + L : Nat) : Int)) :
    Go.sectionReader cr (base : Int) n len (off : Int) =
      if L ≤ off then ([], Go.Error.eof)
      else if len > ((L - off : Nat) : Int) then
        ((cr ((L - off : Nat) : Int) ((off + base : Nat) : Int)).1,
          if (cr ((L - off : Nat) : Int) ((off + base : Nat) : Int)).2 == Go.Error.nil then Go.Error.eof
          else (cr ((L - off : Nat) : Int) ((off + base : Nat) : Int)).2)
      else cr len ((off + base : Nat) : Int) := by
  unfold Go.sectionReader
  simp only [hL]
  by_cases h1 : L ≤ off
  · rw [if_pos h1, if_pos (by omega)]
  · have e1 : ((base + L : Nat) : Int) - ((off : Int) + (base : Int)) = ((L - off : Nat) : Int) := by omega
    have e2 : (off : Int) + (base : Int) = ((off + base : Nat) : Int) := by omega
    rw [if_neg h1, if_neg (by omega), e1, e2]

theorem section8 (cr : Go.ReaderAt) (c : List UInt8) (hcr : ReadsLike cr c) (base n i : Nat) (hb : base + n < 2 ^ 62) :
    (if i * 8 + 8 ≤ n then
      Go.sectionReader cr (base : Int) (n : Int) (8 : Nat) ((i * 8 : Nat) : Int) = memRd c (8 : Nat) ((base + i * 8 : Nat) : Int)
     else (Go.sectionReader cr (base : Int) (n : Int) (8 : Nat) ((i * 8 : Nat) : Int)).2 = Go.Error.eof) := by
  rw [section_nat cr base n (i * 8) (n : Int) (8 : Nat) (by rw [if_pos (by omega)]; omega)]
  by_cases h : i * 8 + 8 ≤ n
  · rw [if_pos h, if_neg (by omega), if_neg (by omega), hcr (8 : Nat) _ (by omega) (by omega), Nat.add_comm]
  · rw [if_neg h]
    by_cases h1 : n ≤ i * 8
    · rw [if_pos h1]
    · rw [if_neg h1, if_pos (by omega), hcr _ _ (by omega) (by omega)]
      rcases memRd_err c ((n - i * 8 : Nat) : Int) (i * 8 + base) with h3 | h3 <;> rw [h3] <;> rfl

/-- the in-memory reader of the bytes behind a prefix is the in-memory reader of the whole, shifted -/
theorem memRd_drop (l : List UInt8) (hsz : Nat) (n : Int) (k : Nat) :
    memRd (l.drop hsz) n (k : Int) = memRd l n ((k + hsz : Nat) : Int) := by
  rw [memRd_nat, memRd_nat, List.length_drop, List.drop_drop, Nat.add_comm hsz k]
  by_cases h : k + hsz ≥ l.length
  · rw [if_pos h, if_pos (by omega)]
  · rw [if_neg h, if_neg (by omega), show l.length - hsz - k = l.length - (k + hsz) by omega]

theorem getSpec_lt (c : List UInt8) (base n i k : Nat) (h : getSpec c base n i = some k) : k < 2 ^ 64 := by
  unfold getSpec at h
  split at h
  · split at h
    · cases h; exact unle8_lt _
    · cases h
  · cases h

theorem getter_eq (cr : Go.ReaderAt) (c : List UInt8) (hcr : ReadsLike cr c) (base n i : Nat) (hb : base + n < 2 ^ 62)
    (hi : i < 2 ^ 40) :
    getterOf (Go.sectionReader cr (base : Int) (n : Int)) (i : Int) =
      match getSpec c base n i with
      | none => .error (.err "EOF")
      | some k => .ok (UInt64.ofNat k) := by
  unfold getterOf getSpec
  have hw : Go.wrap64 ((i : Int) * 8) = ((i * 8 : Nat) : Int) := by
    rw [Go.wrap64_id] <;> omega
  rw [hw, readU64_eq]
  have hs := section8 cr c hcr base n i hb
  by_cases h : i * 8 + 8 ≤ n
  · rw [if_pos h] at hs ⊢
    rw [hs, memRd_width c 8 _ (by omega)]
    by_cases h2 : base + i * 8 + 8 ≤ c.length
    · have hl : ((c.drop (base + i * 8)).take 8).length = 8 := by rw [List.length_take, List.length_drop]; omega
      rw [if_pos h2, if_pos h2]
      dsimp only
      rw [if_neg (by decide), pad_full _ 8 0 hl, leU64_eq _ hl]
      rfl
    · rw [if_neg h2, if_neg h2]
      rfl
  · rw [if_neg h] at hs ⊢
    rw [hs]
    rfl

theorem hasSearch_eq (xx : List UInt8 → UInt64) (fuel : Nat) (cr : Go.ReaderAt) (c sig : List UInt8) (hcr : ReadsLike cr c)
    (offset : UInt64) (nh : UInt32) (h4 : offset.toNat + 4 ≤ c.length) (hc : c.length < 2 ^ 61) (hf : 2 ^ 32 ≤ fuel) :
    Verdict (BK.searchB (getSpec c (offset.toNat + 4) ((nh.toNat * 8) % 2 ^ 32)) (xx sig).toNat nh.toNat fuel 0)
      (hasSearchM xx fuel cr sig offset nh) := by
  have hnb := nh.toNat_lt
  have hn32 : (nh.toNat * 8) % 2 ^ 32 < 2 ^ 32 := Nat.mod_lt _ (by decide)
  have hbase : Go.wrap64 (Go.intOfU64 offset + 4) = ((offset.toNat + 4 : Nat) : Int) := by
    unfold Go.intOfU64; rw [Go.wrap64_id (x := (offset.toNat : Int)) (by omega) (by omega), Go.wrap64_id] <;> omega
  have hmul : ((nh * 8).toNat : Int) = (((nh.toNat * 8) % 2 ^ 32 : Nat) : Int) := by rw [UInt32.toNat_mul]; rfl
  unfold hasSearchM
  rw [show bkHash xx sig = .ok (xx sig) from rfl, bind_ok, hbase, hmul,
    search_eq (getSpec c (offset.toNat + 4) ((nh.toNat * 8) % 2 ^ 32)) (xx sig) nh.toNat (by omega) (.err "EOF") _ fuel (by omega)
      (fun i hi => getter_eq cr c hcr _ _ i (by omega) (by omega)) (getSpec_lt c _ _)]
  cases BK.searchB (getSpec c (offset.toNat + 4) ((nh.toNat * 8) % 2 ^ 32)) (xx sig).toNat nh.toNat fuel 0 with
  | yes =>
    simp only [Verdict, resToM, Go.catchErr, bind_ok, pure_eq_ok, beq_self_eq_true]
    rfl
  | no => exact rfl
  | err => exact ⟨Go.Error.other "EOF", (by intro h; cases h), rfl⟩

theorem hasAt_eq (xx : List UInt8 → UInt64) (fuel : Nat) (cr : Go.ReaderAt) (c sig : List UInt8) (hcr : ReadsLike cr c)
    (hneg : ∀ (n o : Int), o < 0 → (cr n o).2 ≠ Go.Error.nil)
    (offset : UInt64) (hc : c.length < 2 ^ 61) (hf : 2 ^ 32 ≤ fuel) :
    Verdict
      (if offset.toNat = 2 ^ 64 - 1 then .no
       else if offset.toNat ≥ 2 ^ 63 then .err
       else if offset.toNat + 4 > c.length then .err
       else BK.searchB (getSpec c (offset.toNat + 4) ((B.unle ((c.drop offset.toNat).take 4) * 8) % 2 ^ 32)) (xx sig).toNat
        (B.unle ((c.drop offset.toNat).take 4)) fuel 0)
      (hasAtM xx fuel cr sig offset) := by
  have hmk : Go.makeOf (0 : UInt8) 4 = .ok (List.replicate 4 0) := makeOf_natCast 0 4 (by omega)
  unfold hasAtM
  by_cases hmax : offset.toNat = 2 ^ 64 - 1
  · have : offset = 18446744073709551615 := UInt64.toNat_inj.mp hmax
    rw [if_pos hmax, if_pos (by rw [this]; rfl)]
    exact rfl
  · have hne : ¬ ((offset == (18446744073709551615 : UInt64)) = true) := by
      rw [beq_iff_eq, ← UInt64.toNat_inj]; exact hmax
    rw [if_neg hmax, if_neg hne, hmk, bind_ok, len_replicate]
    by_cases hng : offset.toNat ≥ 2 ^ 63
    · -- int64(offset) is negative
      have hio : Go.intOfU64 offset < 0 := by
        unfold Go.intOfU64 Go.wrap64; have := offset.toNat_lt; omega
      have he := hneg (4 : Nat) (Go.intOfU64 offset) hio
      rw [if_pos hng]
      simp only []
      rw [if_pos (bne_iff_ne.2 he)]
      exact ⟨_, he, rfl⟩
    · have hio : Go.intOfU64 offset = (offset.toNat : Int) := by
        unfold Go.intOfU64; rw [Go.wrap64_id] <;> omega
      rw [if_neg hng, hio, hcr _ _ (by omega) (by omega), memRd_width c 4 _ (by omega)]
      by_cases hshort : offset.toNat + 4 > c.length
      · rw [if_pos hshort, if_neg (Nat.not_le_of_gt hshort)]
        exact ⟨Go.Error.eof, (by intro h; cases h), rfl⟩
      · have hlen : ((c.drop offset.toNat).take 4).length = 4 := by rw [List.length_take, List.length_drop]; omega
        have hnb := unle4_lt (c.drop offset.toNat)
        rw [if_neg hshort, if_pos (Nat.le_of_not_gt hshort)]
        dsimp only
        rw [if_neg (by decide), pad_full _ 4 0 hlen, leU32_eq _ hlen, bind_ok]
        have := hasSearch_eq xx fuel cr c sig hcr offset (UInt32.ofNat (B.unle ((c.drop offset.toNat).take 4))) (by omega) hc hf
        rwa [u32_toNat _ hnb] at this

theorem has_of_reads (xx : List UInt8 → UInt64) (cr : Go.ReaderAt) (c : List UInt8) (table : List UInt64) (m : Indexmeta_Meta)
    (a b : UInt8) (rest : List UInt8) (fuel : Nat) (hcr : ReadsLike cr c)
    (hneg : ∀ (n o : Int), o < 0 → (cr n o).2 ≠ Go.Error.nil)
    (htab : table.length = 65536) (hc : c.length < 2 ^ 61) (hf : 2 ^ 32 ≤ fuel) :
    Verdict (hasSpec c table (BK.prefixOf [a, b]) (xx (a :: b :: rest)).toNat fuel)
      (bkReaderHas xx fuel { contentReader := cr, meta_ := m, prefixToOffset := table } (a :: b :: rest)) := by
  have hp : BK.prefixOf [a, b] < 2 ^ 16 := BK.prefixOf_lt [a, b]
  have i0 : Go.idx (a :: b :: rest) 0 = .ok a := idx_natCast (a :: b :: rest) 0 (Nat.zero_lt_succ _)
  have i1 : Go.idx (a :: b :: rest) 1 = .ok b := idx_natCast (a :: b :: rest) 1 (Nat.succ_lt_succ (Nat.zero_lt_succ _))
  have it : Go.idx table ((UInt16.ofNat (BK.prefixOf [a, b])).toNat : Int) = .ok (table.getD (BK.prefixOf [a, b]) 0) := by
    rw [UInt16.toNat_ofNat', Nat.mod_eq_of_lt hp]; exact idx_natCast table _ (by omega)
  rw [has_unfold]
  unfold hasM
  rw [i0, bind_ok, i1, bind_ok, gen_bkPrefixToUint16_eq_model, bind_ok, it, bind_ok]
  exact hasAt_eq xx fuel cr c _ hcr hneg _ hc hf

/-- **tie**: `Reader.Has(sig)`, as translated from the source, over an in-memory content reader = `hasSpec`: `true` exactly
    when the search finds the wanted hash in the bucket of the signature's two-byte prefix, `false` when the prefix has no
    bucket (the `MaxUint64` sentinel) or the search ends, and an error (never a panic) when a read fails — for every
    content below 2^61 bytes, every 65 536-entry table, every signature of at least two bytes, every hash function and
    every fuel ≥ 2^32 (the count field is a uint32) -/
theorem gen_bkReaderHas_eq_spec (xx : List UInt8 → UInt64) (c : List UInt8) (table : List UInt64) (m : Indexmeta_Meta)
    (a b : UInt8) (rest : List UInt8) (fuel : Nat)
    (htab : table.length = 65536) (hc : c.length < 2 ^ 61) (hf : 2 ^ 32 ≤ fuel) :
    match hasSpec c table (BK.prefixOf [a, b]) (xx (a :: b :: rest)).toNat fuel with
    | .yes => bkReaderHas xx fuel { contentReader := memRd c, meta_ := m, prefixToOffset := table } (a :: b :: rest) = .ok (true, Go.Error.nil)
    | .no => bkReaderHas xx fuel { contentReader := memRd c, meta_ := m, prefixToOffset := table } (a :: b :: rest) = .ok (false, Go.Error.nil)
    | .err => ∃ e, e ≠ Go.Error.nil ∧
        bkReaderHas xx fuel { contentReader := memRd c, meta_ := m, prefixToOffset := table } (a :: b :: rest) = .ok (false, e) := by
  have h := has_of_reads xx (memRd c) c table m a b rest fuel (fun _ _ _ _ => rfl) (memRd_neg c) htab hc hf
  generalize hasSpec c table _ _ fuel = v at h ⊢
  cases v <;> exact h

/-- never a panic, never out of fuel -/
theorem gen_bkReaderHas_total (xx : List UInt8 → UInt64) (c : List UInt8) (table : List UInt64) (m : Indexmeta_Meta)
    (a b : UInt8) (rest : List UInt8) (fuel : Nat)
    (htab : table.length = 65536) (hc : c.length < 2 ^ 61) (hf : 2 ^ 32 ≤ fuel) :
    ∃ r, bkReaderHas xx fuel { contentReader := memRd c, meta_ := m, prefixToOffset := table } (a :: b :: rest) = .ok r := by
  have := gen_bkReaderHas_eq_spec xx c table m a b rest fuel htab hc hf
  cases h : hasSpec c table (BK.prefixOf [a, b]) (xx (a :: b :: rest)).toNat fuel with
  | yes => rw [h] at this; exact ⟨_, this⟩
  | no => rw [h] at this; exact ⟨_, this⟩
  | err => rw [h] at this; obtain ⟨e, _, he⟩ := this; exact ⟨_, he⟩

/-! ### `hasSpec` is the model's `BK.hasB` (the reader the no-false-negative theorems of C05 are about) -/

/-- the search does not depend on the fuel once the fuel exceeds what is left of the table -/
theorem searchB_fuel (get : Nat → Option Nat) (x max : Nat) :
    ∀ (f1 f2 n : Nat), max < n + f1 → max < n + f2 → BK.searchB get x max f1 n = BK.searchB get x max f2 n := by
  intro f1 f2 n h1 h2
  rw [C05.searchB_eq_walk, C05.searchB_eq_walk, EytzTie.walk_fuel get id x max f1 f2 n h1 h2]

/-- the prefix table of a version-2 reader as the array of 65 536 `uint64` the Go reader holds -/
def TableRep (t : Array (Option Nat)) (T : List UInt64) : Prop :=
  T.length = 65536 ∧ ∀ p, p < 65536 →
    match t.getD p none with
    | none => T.getD p 0 = 18446744073709551615
    | some off => off < 2 ^ 64 ∧ T.getD p 0 = UInt64.ofNat off

/-- the getter of `hasSpec` over the content is the getter of `hasB` over the file -/
theorem getSpec_eq_rd (l : List UInt8) (base off n : Nat) (hbase : base ≤ l.length) :
    getSpec (l.drop base) (off + 4) n =
      fun i => if i * 8 + 8 ≤ n then (BK.rd l.toArray (base + off + 4 + i * 8) 8).map B.unle else none := by
  funext i
  rw [getSpec, show base + off + 4 + i * 8 = base + (off + 4 + i * 8) by omega, BK.rd_drop l base _ 8 hbase]
  split
  · split <;> rfl
  · rfl

/-- **`hasSpec` over the content = the model's `hasB` over the file**, for a version-2 reader whose content starts at `base` -/
theorem hasSpec_eq_hasB (l : List UInt8) (r : BK.Rdr) (T : List UInt64) (p x fuel : Nat)
    (hv2 : r.fmt = .v2) (hT : TableRep r.table T) (hp : p < 65536) (hbase : r.base ≤ l.length) (hf : 2 ^ 32 ≤ fuel) :
    hasSpec (l.drop r.base) T p x fuel = BK.hasB l.toArray r p x := by
  have hr := hT.2 p hp
  unfold hasSpec BK.hasB
  cases ht : r.table.getD p none with
  | none =>
    rw [ht] at hr
    rw [show T.getD p 0 = _ from hr]
    rfl
  | some off =>
    rw [ht] at hr
    obtain ⟨holt, hTo⟩ := hr
    rw [hTo]
    simp only [u64_toNat off holt, hv2, true_and, BK.rd_drop l r.base off 4 hbase]
    by_cases hmax : off = 2 ^ 64 - 1
    · rw [if_pos hmax, if_pos hmax]
    · rw [if_neg hmax, if_neg hmax]
      by_cases hneg : off ≥ 2 ^ 63
      · rw [if_pos hneg, if_pos hneg]
      · rw [if_neg hneg, if_neg hneg]
        by_cases h4 : off + 4 > (l.drop r.base).length
        · rw [if_pos h4, if_neg (Nat.not_le_of_gt h4)]
        · have hnb := unle4_lt ((l.drop r.base).drop off)
          rw [if_neg h4, if_pos (Nat.le_of_not_gt h4), getSpec_eq_rd l r.base off _ hbase]
          exact searchB_fuel _ x _ fuel _ 0 (by omega) (by omega)

/-- the chain on the code in the tree: translated `Reader.Has` over the content of a version-2 file answers what the
    model's `hasB` answers (the function `has_bytes_agree` / `seal_has_bytes` / `has_only_if_bytes` of C05 are stated about) -/
theorem gen_bkReaderHas_eq_hasB (xx : List UInt8 → UInt64) (l : List UInt8) (r : BK.Rdr) (T : List UInt64) (m : Indexmeta_Meta)
    (a b : UInt8) (rest : List UInt8) (fuel : Nat)
    (hv2 : r.fmt = .v2) (hT : TableRep r.table T) (hbase : r.base ≤ l.length) (hl : l.length < 2 ^ 61) (hf : 2 ^ 32 ≤ fuel) :
    match BK.hasB l.toArray r (BK.prefixOf [a, b]) (xx (a :: b :: rest)).toNat with
    | .yes => bkReaderHas xx fuel { contentReader := memRd (l.drop r.base), meta_ := m, prefixToOffset := T } (a :: b :: rest) = .ok (true, Go.Error.nil)
    | .no => bkReaderHas xx fuel { contentReader := memRd (l.drop r.base), meta_ := m, prefixToOffset := T } (a :: b :: rest) = .ok (false, Go.Error.nil)
    | .err => ∃ e, e ≠ Go.Error.nil ∧
        bkReaderHas xx fuel { contentReader := memRd (l.drop r.base), meta_ := m, prefixToOffset := T } (a :: b :: rest) = .ok (false, e) := by
  have := gen_bkReaderHas_eq_spec xx (l.drop r.base) T m a b rest fuel hT.1 (by simp; omega) hf
  rwa [hasSpec_eq_hasB l r T _ _ fuel hv2 hT (BK.prefixOf_lt _) hbase hf] at this

/-! examples (the spec on a bucket of two hashes laid out as [5, 3]; prefix 0 has the bucket at content offset 0) -/
def exContent : List UInt8 := [2, 0, 0, 0] ++ B.le 8 5 ++ B.le 8 3
def exTable : List UInt64 := 0 :: List.replicate 65535 18446744073709551615

example : hasSpec exContent exTable 0 3 100 = .yes := by decide
example : hasSpec exContent exTable 0 4 100 = .no := by decide
example : hasSpec exContent exTable 1 3 100 = .no := by decide
example : hasSpec (exContent.take 19) exTable 0 3 100 = .err := by decide
example : exTable.length = 65536 := by unfold exTable; rw [List.length_cons, List.length_replicate]

end GoTies.BkHas
