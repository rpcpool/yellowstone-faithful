import Faithful.Generated.GoFns
import Faithful.Lib.GsfaLog
import Faithful.Ties.Basic
import Faithful.Ties.C06
/-!
C06 tie: the record decoder of the address index's linked log (`gsfa/linkedlog/offset-size-slot.go`:
`uvarintReader.ReadUvarint / ReadByte`, `OffsetAndSizeAndSlot.FromReader`, `OffsetAndSizeAndSlotSliceFromBytes`),
translated from /repo's working tree on every run with its errors as data (`io.EOF`, `errors.Is`, `%w` wrapping), is the
model's `Gsfa.parseEntries` — for EVERY byte string: it never panics, never spins, ends silently at an EOF on a field
boundary (also in the middle of an entry) and fails on a malformed uvarint.  With `Gsfa.parse_enc` this gives, on the
code in the tree, `SliceFromBytes (concat (map Bytes es)) = es`.

Recorded with the translation: the interface `UvarintReader` has exactly one implementation in its package
(`*uvarintReader`; checked by the translator on every run) and is translated as that struct.
-/
namespace GoTies.LinkedLog
open Go Generated.G GoTies

/-- `binary.Uvarint` of the runtime = the model's `uvarint64`: a positive count with the model's value and count, or a
    non-positive count exactly when the model rejects -/
theorem uvarint_eq_model (b : List UInt8) :
    match Gsfa.uvarint64 b with
    | some (v, n) => Go.uvarint b = (UInt64.ofNat v, (n : Int)) ∧ 0 < n
    | none => (Go.uvarint b).2 ≤ 0 := by
  have h := C06.uvarint_go_eq b 10 0 0 0 rfl rfl (by decide)
  unfold Gsfa.uvarint64 Go.uvarint
  cases hg : Varint.get b 10 with
  | none => rw [hg] at h; exact h
  | some q =>
    rw [hg] at h
    simp only [Nat.zero_add, Nat.pow_zero, Nat.mul_one] at h ⊢
    by_cases hv : q.1 < 2 ^ 64
    · rw [if_pos hv] at h ⊢; exact ⟨h, (Varint.get_bounds hg).1⟩
    · rw [if_neg hv] at h ⊢; exact h

def rd (p : Nat) (buf : List UInt8) : Linkedlog_uvarintReader := { pos := (p : Int), buf := buf }

theorem atEnd_iff (buf : List UInt8) (p : Nat) : decide ((p : Int) ≥ Go.len buf) = true ↔ buf.drop p = [] := by
  rw [decide_eq_true_iff, List.drop_eq_nil_iff]; exact Int.ofNat_le

/-- `ReadUvarint` at any position: at or beyond the end it reports `io.EOF` -/
theorem readUvarint_at (buf : List UInt8) (p : Nat) (hlen : buf.length < 2 ^ 62) :
    uvrReadUvarint (rd p buf) =
      if buf.drop p = [] then .ok (0, Go.Error.eof, rd p buf)
      else match Gsfa.uvarint64 (buf.drop p) with
        | some (v, n) => .ok (UInt64.ofNat v, Go.Error.nil, rd (p + n) buf)
        | none => .ok (0, Go.Error.other "failed to parse uvarint", rd p buf) := by
  unfold uvrReadUvarint rd
  simp only [atEnd_iff]
  by_cases he : buf.drop p = []
  · rw [if_pos he, if_pos he]; rfl
  · have hlt : p ≤ buf.length := Nat.le_of_not_le (mt List.drop_eq_nil_iff.mpr he)
    rw [if_neg he, if_neg he, slice_to_end buf p hlt, bind_ok]
    have hu := uvarint_eq_model (buf.drop p)
    cases hm : Gsfa.uvarint64 (buf.drop p) with
    | none =>
      rw [hm] at hu
      simp only [decide_eq_true hu, if_true]; rfl
    | some q =>
      rw [hm] at hu
      have hn := (Gsfa.uvarint64_bounds hm).2.1
      rw [List.length_drop] at hn
      simp only [hu.1, decide_eq_false (Int.not_le.mpr (Int.natCast_pos.mpr hu.2)), Bool.false_eq_true, if_false]
      rw [Go.wrap64_id (by omega) (by omega)]
      rfl

/-- `ReadUvarint` inside the buffer: EOF at the end, else the model's `uvarint64` of the rest (`hp` is not needed) -/
theorem readUvarint_eq (buf : List UInt8) (p : Nat) (hp : p ≤ buf.length) (hlen : buf.length < 2 ^ 62) :
    uvrReadUvarint (rd p buf) =
      if buf.drop p = [] then .ok (0, Go.Error.eof, rd p buf)
      else match Gsfa.uvarint64 (buf.drop p) with
        | some (v, n) => .ok (UInt64.ofNat v, Go.Error.nil, rd (p + n) buf)
        | none => .ok (0, Go.Error.other "failed to parse uvarint", rd p buf) :=
  readUvarint_at buf p hlen

theorem readByte_at (buf : List UInt8) (p : Nat) (hlen : buf.length < 2 ^ 62) :
    uvrReadByte (rd p buf) =
      match buf.drop p with
      | [] => .ok (0, Go.Error.eof, rd p buf)
      | c :: _ => .ok (c, Go.Error.nil, rd (p + 1) buf) := by
  unfold uvrReadByte rd
  simp only [atEnd_iff]
  cases he : buf.drop p with
  | nil => rfl
  | cons c rest =>
    have hlt : ¬ buf.length ≤ p := fun hle => by rw [List.drop_eq_nil_iff.mpr hle] at he; cases he
    rw [if_neg (List.cons_ne_nil _ _), idx_natCast buf p (by omega), getD_of_drop_eq_cons he, bind_ok,
      wrap64_natCast_succ p (by omega)]
    rfl

/-- `ReadByte` inside the buffer: EOF at the end, else the byte there -/
theorem readByte_eq (buf : List UInt8) (p : Nat) (hp : p ≤ buf.length) (hlen : buf.length < 2 ^ 62) :
    uvrReadByte (rd p buf) =
      match buf.drop p with
      | [] => .ok (0, Go.Error.eof, rd p buf)
      | c :: _ => .ok (c, Go.Error.nil, rd (p + 1) buf) :=
  readByte_at buf p hlen

def toGo (e : Gsfa.Entry) : Linkedlog_OffsetAndSizeAndSlot := { Offset := e.off, Size := e.size, Slot := e.slot, Flags := e.flags }

/-- one `FromReader` step on the bytes from position `p` on -/
inductive FR where
  | eof                         -- io.EOF on a field boundary
  | bad                         -- malformed uvarint
  | ok (e : Gsfa.Entry) (p' : Nat)

def frSpec (buf : List UInt8) (p : Nat) : FR :=
  if buf.drop p = [] then .eof else
  match Gsfa.uvarint64 (buf.drop p) with
  | none => .bad
  | some (off, n1) =>
    if buf.drop (p + n1) = [] then .eof else
    match Gsfa.uvarint64 (buf.drop (p + n1)) with
    | none => .bad
    | some (sz, n2) =>
      if buf.drop (p + n1 + n2) = [] then .eof else
      match Gsfa.uvarint64 (buf.drop (p + n1 + n2)) with
      | none => .bad
      | some (slot, n3) =>
        match buf.drop (p + n1 + n2 + n3) with
        | [] => .eof
        | fl :: _ => .ok ⟨UInt64.ofNat off, UInt64.ofNat sz, UInt64.ofNat slot, fl⟩ (p + n1 + n2 + n3 + 1)

/-! `frSpec`, the model's `parseEntries` and the translated `FromReader` all read three uvarint fields and a byte.  `fld` is
one field of `frSpec` with the rest as a continuation; `fld_parse` and `fld_go` relate one field of the other two to it. -/

def fld (buf : List UInt8) (p : Nat) (k : Nat → Nat → FR) : FR :=
  if buf.drop p = [] then .eof else
  match Gsfa.uvarint64 (buf.drop p) with
  | none => .bad
  | some (v, n) => k v (p + n)

theorem frSpec_eq_fld (buf : List UInt8) (p : Nat) :
    frSpec buf p = fld buf p fun off p1 => fld buf p1 fun sz p2 => fld buf p2 fun slot p3 =>
      match buf.drop p3 with
      | [] => .eof
      | fl :: _ => .ok ⟨UInt64.ofNat off, UInt64.ofNat sz, UInt64.ofNat slot, fl⟩ (p3 + 1) := rfl

/-- a field that is read is not empty and ends inside the buffer -/
theorem fld_cases {buf : List UInt8} {p : Nat} {k : Nat → Nat → FR} {P : FR → Prop} (heof : P .eof) (hbad : P .bad)
    (hk : ∀ v n, 0 < n → p + n ≤ buf.length → P (k v (p + n))) : P (fld buf p k) := by
  unfold fld
  split
  · exact heof
  · split
    · exact hbad
    · have := Gsfa.uvarint64_bounds ‹_›
      rw [List.length_drop] at this
      exact hk _ _ this.1 (by omega)

theorem frSpec_bounds (buf : List UInt8) (p : Nat) (e : Gsfa.Entry) (p' : Nat) (h : frSpec buf p = .ok e p') :
    p < p' ∧ p' ≤ buf.length := by
  revert h
  rw [frSpec_eq_fld]
  let P : FR → Prop := fun r => r = .ok e p' → p < p' ∧ p' ≤ buf.length
  refine fld_cases (P := P) (fun h => nomatch h) (fun h => nomatch h) fun _ n1 _ _ => ?_
  refine fld_cases (P := P) (fun h => nomatch h) (fun h => nomatch h) fun _ n2 _ _ => ?_
  refine fld_cases (P := P) (fun h => nomatch h) (fun h => nomatch h) fun _ n3 _ _ => ?_
  show _ = _ → _
  split
  · exact fun h => nomatch h
  · rename_i hd
    intro h
    have : ¬ buf.length ≤ p + n1 + n2 + n3 := fun hle => by rw [List.drop_eq_nil_iff.mpr hle] at hd; cases hd
    cases h; omega

theorem fld_parse {buf : List UInt8} {p : Nat} {k : Nat → Nat → FR} {K : Nat → Nat → Gsfa.Res (List Gsfa.Entry)}
    (I : FR → Gsfa.Res (List Gsfa.Entry)) (heof : I .eof = .ok []) (hbad : I .bad = .error (.err "failed to parse uvarint"))
    (hk : ∀ v n, I (k v (p + n)) = K v n) :
    I (fld buf p k) =
      if (buf.drop p).isEmpty then .ok [] else
      match Gsfa.uvarint64 (buf.drop p) with
      | none => .error (.err "failed to parse uvarint")
      | some (v, n) => K v n := by
  unfold fld
  simp only [List.isEmpty_iff]
  split
  · exact heof
  · split
    · exact hbad
    · exact hk _ _

theorem parseEntries_succ (buf : List UInt8) (p f : Nat) :
    Gsfa.parseEntries (f + 1) (buf.drop p) =
      match frSpec buf p with
      | .eof => .ok []
      | .bad => .error (.err "failed to parse uvarint")
      | .ok e p' => (match Gsfa.parseEntries f (buf.drop p') with
          | .ok es => .ok (e :: es)
          | .error x => .error x) := by
  rw [frSpec_eq_fld, Gsfa.parseEntries]
  simp only [List.drop_drop]
  let I : FR → Gsfa.Res (List Gsfa.Entry) := fun r =>
    match r with
    | .eof => .ok []
    | .bad => .error (.err "failed to parse uvarint")
    | .ok e p' => (match Gsfa.parseEntries f (buf.drop p') with
        | .ok es => .ok (e :: es)
        | .error x => .error x)
  refine (fld_parse I rfl rfl fun off n1 => ?_).symm
  refine fld_parse I rfl rfl fun sz n2 => ?_
  refine fld_parse I rfl rfl fun slot n3 => ?_
  cases h4 : buf.drop (p + n1 + n2 + n3) with
  | nil => rfl
  | cons fl rest =>
    have e : buf.drop (p + n1 + n2 + n3 + 1) = rest := by rw [← List.drop_drop, h4]; rfl
    simp only [I, e]
    rfl

/-- the translated `FromReader` without the local re-bindings (`fromReader_unfold`: `rfl`) -/
def fromReaderM (oas0 : Linkedlog_OffsetAndSizeAndSlot) (r0 : Linkedlog_uvarintReader) :
    M (Go.Error × Linkedlog_OffsetAndSizeAndSlot × Linkedlog_uvarintReader) :=
  uvrReadUvarint r0 >>= fun t1 =>
  if (t1.2.1 != Go.Error.nil) = true then
    pure (Go.Error.wrap "failed to read offset: %w" t1.2.1, { oas0 with Offset := t1.1 }, t1.2.2)
  else uvrReadUvarint t1.2.2 >>= fun t2 =>
  if (t2.2.1 != Go.Error.nil) = true then
    pure (Go.Error.wrap "failed to read size: %w" t2.2.1, { oas0 with Offset := t1.1, Size := t2.1 }, t2.2.2)
  else uvrReadUvarint t2.2.2 >>= fun t3 =>
  if (t3.2.1 != Go.Error.nil) = true then
    pure (Go.Error.wrap "failed to read slot: %w" t3.2.1, { oas0 with Offset := t1.1, Size := t2.1, Slot := t3.1 }, t3.2.2)
  else uvrReadByte t3.2.2 >>= fun t4 =>
  if (t4.2.1 != Go.Error.nil) = true then
    pure (Go.Error.wrap "failed to read flags: %w" t4.2.1, { oas0 with Offset := t1.1, Size := t2.1, Slot := t3.1 }, t4.2.2)
  else pure (Go.Error.nil, { Offset := t1.1, Size := t2.1, Slot := t3.1, Flags := t4.1 }, t4.2.2)

theorem fromReader_unfold (oas0 : Linkedlog_OffsetAndSizeAndSlot) (r0 : Linkedlog_uvarintReader) :
    oassFromReader oas0 r0 = fromReaderM oas0 r0 := rfl

theorem fld_go {σ : Type} {buf : List UInt8} {p : Nat} (hlen : buf.length < 2 ^ 62) {k : Nat → Nat → FR}
    {Q : FR → M σ → Prop} {F : UInt64 × Go.Error × Linkedlog_uvarintReader → σ}
    {K : UInt64 × Go.Error × Linkedlog_uvarintReader → M σ}
    (heof : Q .eof (.ok (F (0, .eof, rd p buf))))
    (hbad : Q .bad (.ok (F (0, .other "failed to parse uvarint", rd p buf))))
    (hk : ∀ v n, Q (k v (p + n)) (K (UInt64.ofNat v, .nil, rd (p + n) buf))) :
    Q (fld buf p k) (uvrReadUvarint (rd p buf) >>= fun t => if (t.2.1 != Go.Error.nil) = true then pure (F t) else K t) := by
  rw [readUvarint_at buf p hlen]
  unfold fld
  by_cases he : buf.drop p = []
  · rw [if_pos he, if_pos he]; exact heof
  · rw [if_neg he, if_neg he]
    cases Gsfa.uvarint64 (buf.drop p) with
    | none => exact hbad
    | some q => exact hk _ _

theorem fromReader_eq (buf : List UInt8) (p : Nat) (hp : p ≤ buf.length) (hlen : buf.length < 2 ^ 62)
    (oas0 : Linkedlog_OffsetAndSizeAndSlot) :
    match frSpec buf p with
    | .eof => ∃ o r, oassFromReader oas0 (rd p buf) = .ok (Go.Error.eof, o, r)
    | .bad => ∃ t o r, oassFromReader oas0 (rd p buf) = .ok (Go.Error.other t, o, r)
    | .ok e p' => oassFromReader oas0 (rd p buf) = .ok (Go.Error.nil, toGo e, rd p' buf) ∧ p < p' ∧ p' ≤ buf.length := by
  let Q : FR → M (Go.Error × Linkedlog_OffsetAndSizeAndSlot × Linkedlog_uvarintReader) → Prop := fun r g =>
    match r with
    | .eof => ∃ o r, g = .ok (Go.Error.eof, o, r)
    | .bad => ∃ t o r, g = .ok (Go.Error.other t, o, r)
    | .ok e p' => g = .ok (Go.Error.nil, toGo e, rd p' buf)
  have h : Q (frSpec buf p) (oassFromReader oas0 (rd p buf)) := by
    rw [fromReader_unfold, frSpec_eq_fld]
    unfold fromReaderM
    refine fld_go hlen ⟨_, _, rfl⟩ ⟨_, _, _, rfl⟩ fun off n1 => ?_
    refine fld_go hlen ⟨_, _, rfl⟩ ⟨_, _, _, rfl⟩ fun sz n2 => ?_
    refine fld_go hlen ⟨_, _, rfl⟩ ⟨_, _, _, rfl⟩ fun slot n3 => ?_
    show Q _ (uvrReadByte (rd (p + n1 + n2 + n3) buf) >>= _)
    rw [readByte_at buf _ hlen]
    cases buf.drop (p + n1 + n2 + n3) with
    | nil => exact ⟨_, _, rfl⟩
    | cons fl rest => rfl
  have hb := frSpec_bounds buf p
  cases hs : frSpec buf p with
  | eof => rw [hs] at h; exact h
  | bad => rw [hs] at h; exact h
  | ok e p' => rw [hs] at h; exact ⟨h, hb e p' hs⟩

/-- one iteration of the translated loop, by `rfl` -/
theorem loop1_succ (fuel0 f : Nat) (acc : List Linkedlog_OffsetAndSizeAndSlot) (r : Linkedlog_uvarintReader) :
    oassSliceFromBytes.loop1 fuel0 (f + 1) acc r =
      (oassFromReader Linkedlog_OffsetAndSizeAndSlot.zero r >>= fun t2 =>
        if (t2.1 != Go.Error.nil) = true then
          (if (Go.Error.is t2.1 Go.Error.eof) = true then pure (LoopRes.done (acc, t2.2.2))
           else pure (LoopRes.ret (([] : List Linkedlog_OffsetAndSizeAndSlot), Go.Error.wrap "failed to parse offset and size: %w" t2.1)))
        else oassSliceFromBytes.loop1 fuel0 f (acc ++ [t2.2.1]) t2.2.2) := rfl

theorem loop_eq (buf : List UInt8) (hlen : buf.length < 2 ^ 62) (fuel0 : Nat) :
    ∀ (f p : Nat) (acc : List Linkedlog_OffsetAndSizeAndSlot), p ≤ buf.length → buf.length - p < f →
    match Gsfa.parseEntries f (buf.drop p) with
    | .ok es => ∃ r, oassSliceFromBytes.loop1 fuel0 f acc (rd p buf) = .ok (LoopRes.done (acc ++ es.map toGo, r))
    | .error _ => ∃ t, oassSliceFromBytes.loop1 fuel0 f acc (rd p buf)
        = .ok (LoopRes.ret (([] : List Linkedlog_OffsetAndSizeAndSlot), Go.Error.other t)) := by
  intro f
  induction f with
  | zero => intro p acc _ h; omega
  | succ f ih =>
    intro p acc hp hf
    rw [parseEntries_succ, loop1_succ]
    have hfr := fromReader_eq buf p hp hlen Linkedlog_OffsetAndSizeAndSlot.zero
    cases hs : frSpec buf p with
    | eof =>
      rw [hs] at hfr
      obtain ⟨o, r, h⟩ := hfr
      exact ⟨r, by rw [h, List.map_nil, List.append_nil]; rfl⟩
    | bad =>
      rw [hs] at hfr
      obtain ⟨t, o, r, h⟩ := hfr
      exact ⟨t, by rw [h]; rfl⟩
    | ok e p' =>
      rw [hs] at hfr
      obtain ⟨h, hlt, hle⟩ := hfr
      rw [h]
      simp only [bind_ok, show ¬ ((Go.Error.nil != Go.Error.nil) = true) by decide]
      have := ih p' (acc ++ [toGo e]) hle (by omega)
      cases hm : Gsfa.parseEntries f (buf.drop p') with
      | ok es =>
        rw [hm] at this
        obtain ⟨r, hr⟩ := this
        exact ⟨r, by rw [hr]; simp⟩
      | error x => rw [hm] at this; exact this

/-- **tie**: `OffsetAndSizeAndSlotSliceFromBytes(buf)`, as translated from the source, = the model's `parseEntries`, for
    every byte string shorter than 2^62 and every fuel above its length: the entries and a nil error, or no entries and
    a non-EOF error; it never panics and never spins -/
theorem gen_oassSliceFromBytes_eq_model (buf : List UInt8) (fuel : Nat) (hf : buf.length < fuel) (hlen : buf.length < 2 ^ 62) :
    match Gsfa.parseEntries fuel buf with
    | .ok es => oassSliceFromBytes fuel buf = .ok (es.map toGo, Go.Error.nil)
    | .error _ => ∃ t, oassSliceFromBytes fuel buf = .ok ([], Go.Error.other t) := by
  unfold oassSliceFromBytes
  have hmk : Go.makeOf Linkedlog_OffsetAndSizeAndSlot.zero (0 : Int) = .ok [] := makeOf_natCast _ 0 (by decide)
  have hr : ({ Linkedlog_uvarintReader.zero with buf := buf } : Linkedlog_uvarintReader) = rd 0 buf := rfl
  have := loop_eq buf hlen fuel fuel 0 [] (by omega) (by omega)
  simp only [List.drop_zero] at this
  cases hm : Gsfa.parseEntries fuel buf with
  | ok es =>
    rw [hm] at this
    obtain ⟨r, h⟩ := this
    simp only [hmk, bind_ok, hr, h, List.nil_append]
    rfl
  | error x =>
    rw [hm] at this
    obtain ⟨t, h⟩ := this
    refine ⟨t, ?_⟩
    simp only [hmk, bind_ok, hr, h]
    rfl

/-- on the code in the tree: what `Bytes()` wrote for each entry, concatenated, is read back entry for entry -/
theorem gen_slice_roundtrip (es : List Gsfa.Entry) (fuel : Nat) (hf : (Gsfa.encEntries es).length < fuel)
    (hlen : (Gsfa.encEntries es).length < 2 ^ 62) :
    oassSliceFromBytes fuel (Gsfa.encEntries es) = .ok (es.map toGo, Go.Error.nil) := by
  have := gen_oassSliceFromBytes_eq_model (Gsfa.encEntries es) fuel hf hlen
  rw [Gsfa.parse_enc es fuel (by have := Gsfa.encEntries_length_ge es; omega)] at this
  exact this

/-- examples through the theorem's subject: a whole record, one cut inside an entry at a field boundary (the partial
    entry disappears silently), one cut inside a uvarint (error) -/
example : oassSliceFromBytes 20 [0xac, 0x02, 5, 1, 3, 7, 8, 9, 0] =
    .ok ([{ Offset := 300, Size := 5, Slot := 1, Flags := 3 }, { Offset := 7, Size := 8, Slot := 9, Flags := 0 }], Go.Error.nil) := by rfl
example : oassSliceFromBytes 20 [0xac, 0x02, 5, 1, 3, 7, 8] =
    .ok ([{ Offset := 300, Size := 5, Slot := 1, Flags := 3 }], Go.Error.nil) := by rfl
example : oassSliceFromBytes 20 [0xac, 0x02, 5, 1, 3, 7, 0x80] =
    .ok ([], Go.Error.wrap "failed to parse offset and size: %w" (Go.Error.wrap "failed to read slot: %w" (Go.Error.other "failed to parse uvarint"))) := by rfl

end GoTies.LinkedLog
