import Faithful.Generated.GoFns
import Faithful.Lib.CompactIndex
import Faithful.Ties.Eytz
/-!
C04 ties: the functions of `compactindexsized` that the translator turns into Lean on every run
(`Generated.G.*`, from /repo's working tree) compute what the hand-written model `CI.*` says, for all inputs.
A change to one of these Go functions changes `Generated/GoFns.lean` and the corresponding theorem has to be
re-proved by the kernel; if it no longer holds the check reports the tie by name.
-/
namespace GoTies.C04
open Go Generated.G GoTies

def mkEntry (e : CI.Ent) : Compactindexsized_Entry := { Hash := UInt64.ofNat e.1, Value := e.2 }

/-- how the model's verdict reads as a Go result: `found v` = `(v, nil)`, `notFound` = `(nil, ErrNotFound)`,
    `err` = the getter's error, `hang` = out of fuel -/
def lookToM (ioErr : Err) : CI.Look → M (List UInt8)
  | .found v => .ok v
  | .notFound => .error (.err "ErrNotFound")
  | .err => .error ioErr
  | .hang => .error .hang

/-- `CI.searchB` forgets where `walk` stops -/
theorem searchB_eq_walk (get : Nat → Option CI.Ent) (x max : Nat) : ∀ fuel n,
    CI.searchB get x max fuel n =
      match EytzTie.walk get Prod.fst x max fuel n with
      | .hit e => .found e.2
      | .miss _ => .notFound
      | .fail => .err := by
  intro fuel
  induction fuel with
  | zero => intro n; rfl
  | succ f ih =>
    intro n
    rw [CI.searchB, EytzTie.walk]
    split
    · cases get n with
      | none => rfl
      | some e =>
        simp only []
        split
        · rfl
        · exact ih _
    · rfl

/-- the compactindexsized copy of the loop unfolds to `searchBody` on natural indices: its extra test `index < min` is
    dead for `min = 0` -/
theorem ci_loop_succ (fuel0 fuel : Nat) (getter : Int → M Compactindexsized_Entry) (max : Nat) (hmax : max < 2 ^ 62)
    (x : UInt64) (n : Nat) :
    ciSearchEytzinger.loop1 fuel0 getter max 0 x (fuel + 1) n =
      EytzTie.searchBody (·.Hash) (·.Value) getter max x (ciSearchEytzinger.loop1 fuel0 getter max 0 x fuel) n := by
  have h0 : ∀ m : Nat, ¬ (m : Int) < 0 := fun m => by omega
  by_cases h : n < max
  · simp only [ciSearchEytzinger.loop1, EytzTie.searchBody, orInt_step n (by omega), wrap64_natCast_succ (2 * n + 1) (by omega), h0,
      decide_false, Bool.false_eq_true, if_false]
  · simp only [ciSearchEytzinger.loop1, EytzTie.searchBody, Int.ofNat_lt, h, decide_false, Bool.not_false, if_true]

/-- stands first: the `match` in `hget` names the matcher (`ci_loop_walk.match_1`) of the ties' statements -/
theorem ci_loop_walk (get : Nat → Option CI.Ent) (x : UInt64) (max : Nat) (hmax : max < 2^62) (ioErr : Err)
    (getter : Int → M Compactindexsized_Entry) (fuel0 : Nat)
    (hget : ∀ i : Nat, i < max → getter (i : Int) = match get i with | none => .error ioErr | some e => .ok (mkEntry e))
    (hr : ∀ i e, get i = some e → e.1 < 2^64) :
    ∀ (fuel n : Nat), max < n + fuel → 0 < fuel →
      ciSearchEytzinger.loop1 fuel0 getter (max : Int) 0 x fuel (n : Int) =
        (EytzTie.walk get Prod.fst x.toNat max fuel n).toLoop Prod.snd ioErr :=
  EytzTie.loop_eq_walk _ _ getter max hmax x _ (ci_loop_succ fuel0 · getter max hmax x) get Prod.fst mkEntry Prod.snd ioErr
    (fun i hi h => by rw [hget i hi, h]) (fun i a hi h => by rw [hget i hi, h]) hr (fun _ => rfl) (fun _ _ => rfl)

theorem ciSearchEytzinger_eq_model (get : Nat → Option CI.Ent) (x : UInt64) (max : Nat) (hmax : max < 2^62) (ioErr : Err)
    (getter : Int → M Compactindexsized_Entry) (fuel : Nat) (hf : max < fuel)
    (hget : ∀ i : Nat, i < max → getter (i : Int) = match get i with | none => .error ioErr | some e => .ok (mkEntry e))
    (hr : ∀ i e, get i = some e → e.1 < 2^64) :
    ciSearchEytzinger fuel 0 (max : Int) x getter = lookToM ioErr (CI.searchB get x.toNat max fuel 0) := by
  have h := ci_loop_walk get x max hmax ioErr getter fuel hget hr fuel 0 (by omega) (by omega)
  simp only [Int.natCast_zero] at h
  simp only [ciSearchEytzinger, h, searchB_eq_walk]
  cases EytzTie.walk get Prod.fst x.toNat max fuel 0 <;> rfl

/-- **tie**: `searchEytzinger(0, max, x, getter)` of query.go, as translated from the source, answers exactly what the
    model's `searchB` answers, for every getter (failing reads included), every table size below 2^62 and every target;
    `max + 1` units of fuel are enough (the Go loop terminates). -/
theorem gen_ciSearchEytzinger_eq_model (get : Nat → Option CI.Ent) (x : UInt64) (max : Nat) (hmax : max < 2^62) (ioErr : Err)
    (getter : Int → M Compactindexsized_Entry)
    (hget : ∀ i : Nat, i < max → getter (i : Int) = match get i with | none => .error ioErr | some e => .ok (mkEntry e))
    (hr : ∀ i e, get i = some e → e.1 < 2^64) :
    ciSearchEytzinger (max + 1) 0 (max : Int) x getter = lookToM ioErr (CI.searchB get x.toNat max (max + 1) 0) :=
  ciSearchEytzinger_eq_model get x max hmax ioErr getter (max + 1) (by omega) hget hr

/-! ### hashUint64, Header.BucketHash (compactindex.go) = `CI.bucketHash` -/

theorem gen_ciHashUint64_eq_model (x : UInt64) : ciHashUint64 x = .ok (H.hashUint64 x) := by
  simp only [ciHashUint64, H.hashUint64, pure, Except.pure]

/-- the loop of `Header.BucketHash` (three copies: compactindexsized and the two legacy formats); `hashU` is the package's
    `hashUint64`, `rec` the next iteration -/
def bucketBody (hashU : UInt64 → M UInt64) (r : UInt64) (rec : UInt64 → M (LoopRes UInt64 UInt64)) (u : UInt64) :
    M (LoopRes UInt64 UInt64) := do
  let mut u := u
  if !((decide (u < r))) then return (LoopRes.done u)
  let t2 ← hashU u
  let mut next : UInt64 := t2
  if (next == u) then
    return (LoopRes.done u)
  u := next
  rec u

theorem bucketLoop_eq_model (hashU : UInt64 → M UInt64) (hh : ∀ x, hashU x = .ok (H.hashUint64 x)) (r : UInt64)
    (loop : Nat → UInt64 → M (LoopRes UInt64 UInt64)) (hloop0 : ∀ u, loop 0 u = .error .hang)
    (hloop : ∀ fuel u, loop (fuel + 1) u = bucketBody hashU r (loop fuel) u) : ∀ (fuel : Nat) (u : UInt64),
    loop fuel u =
      match CI.bucketHashLoop fuel r u with
      | some v => .ok (.done v)
      | none => .error .hang := by
  intro fuel
  induction fuel with
  | zero => exact hloop0
  | succ f ih =>
    intro u
    rw [hloop, bucketBody, CI.bucketHashLoop]
    by_cases h : u < r
    · simp only [h, decide_true, Bool.not_true, Bool.false_eq_true, if_false, if_true, hh, bind_ok]
      by_cases h2 : H.hashUint64 u = u
      · simp [h2]
      · simp only [h2, beq_iff_eq, if_false]
        exact ih _
    · simp [h]

/-- what `Header.BucketHash` does around its loop, for a header with `nb` buckets -/
def bucketHashOf (loop : UInt64 → Nat → UInt64 → M (LoopRes UInt64 UInt64)) (xxSum64 : List UInt8 → UInt64) (fuel : Nat)
    (nb : UInt32) (key : List UInt8) : M UInt64 := do
  let mut u : UInt64 := (xxSum64 key)
  let mut n : UInt64 := (nb.toUInt64)
  let t1 ← Go.modU64 (0 - n) n
  let mut r : UInt64 := t1
  match ← loop r fuel u with
  | LoopRes.ret r3 => return r3
  | LoopRes.done s4 =>
    u := s4
  let t5 ← Go.modU64 u n
  return t5

theorem bucketHashOf_eq_model (loop : UInt64 → Nat → UInt64 → M (LoopRes UInt64 UInt64))
    (hloop : ∀ r fuel u, loop r fuel u = match CI.bucketHashLoop fuel r u with | some v => .ok (.done v) | none => .error .hang)
    (nb : UInt32) (key : List UInt8) (hn : nb ≠ 0) :
    bucketHashOf loop H.xxhash64 64 nb key =
      match CI.bucketHash key nb.toNat with
      | some b => .ok (UInt64.ofNat b)
      | none => .error .hang := by
  unfold bucketHashOf CI.bucketHash
  have hn64 : nb.toUInt64 ≠ 0 := by
    intro hc; apply hn
    have := congrArg UInt64.toNat hc
    simp at this
    exact UInt32.toNat_inj.mp (by simpa using this)
  have hcast : nb.toNat.toUInt64 = nb.toUInt64 := by
    apply UInt64.toNat_inj.mp; simp [Nat.toUInt64]
  simp only [Go.modU64, hn64, if_false, bind_ok, pure_eq_ok, hcast]
  rw [hloop]
  cases CI.bucketHashLoop 64 (((0:UInt64) - nb.toUInt64) % nb.toUInt64) (H.xxhash64 key) with
  | none => rfl
  | some u =>
    simp only [bind_ok]
    congr 1
    apply UInt64.toNat_inj.mp
    have hlt : u.toNat % nb.toNat < 2^64 := by
      have := u.toNat_lt
      have h0 : 0 < nb.toNat := by
        rcases Nat.eq_zero_or_pos nb.toNat with hz | hp
        · exact (hn (UInt32.toNat_inj.mp (by simpa using hz))).elim
        · exact hp
      have := Nat.mod_lt u.toNat h0
      have := nb.toNat_lt
      omega
    simp [UInt64.toNat_mod, UInt64.toNat_ofNat', Nat.mod_eq_of_lt hlt]

/-- **tie**: `Header.BucketHash(key)` as translated from the source = the model's `bucketHash`, for every key and every
    non-zero bucket count, with the same fuel on both sides (running out of fuel = the model's `none`). -/
theorem gen_ciBucketHash_eq_model (h : Compactindexsized_Header) (key : List UInt8) (hn : h.NumBuckets ≠ 0) :
    ciBucketHash H.xxhash64 64 h key =
      match CI.bucketHash key h.NumBuckets.toNat with
      | some b => .ok (UInt64.ofNat b)
      | none => .error .hang :=
  bucketHashOf_eq_model (ciBucketHash.loop1 H.xxhash64 64)
    (fun r => bucketLoop_eq_model ciHashUint64 gen_ciHashUint64_eq_model r _ (fun _ => rfl) (fun _ _ => rfl)) h.NumBuckets key hn

/-! ### uintLe / putUintLe (compactindex.go) = `B.unle` / `B.le` -/

/-- **tie**: `uintLe(buf)` = little-endian value of the first 8 bytes (fewer when `buf` is shorter) -/
theorem gen_ciUintLe_eq_model (buf : List UInt8) : ciUintLe buf = .ok (UInt64.ofNat (B.unle (buf.take 8))) := by
  unfold ciUintLe
  simp only [Go.copy, Go.leU64, List.length_replicate, pure_eq_ok]
  have hl : 8 ≤ (List.take (min 8 buf.length) buf ++ List.drop (min 8 buf.length) (List.replicate 8 (0:UInt8))).length := by
    simp; omega
  simp only [hl, if_true, leDecode_eq_unle]
  congr 2
  have e1 : List.take (min 8 buf.length) buf = buf.take 8 := by
    by_cases hb : 8 ≤ buf.length
    · rw [Nat.min_eq_left hb]
    · rw [Nat.min_eq_right (by omega), List.take_of_length_le (Nat.le_refl _), List.take_of_length_le (by omega)]
  rw [e1, List.drop_replicate]
  have e2 : List.take 8 (List.take 8 buf ++ List.replicate (8 - min 8 buf.length) (0:UInt8)) = List.take 8 buf ++ List.replicate (8 - min 8 buf.length) 0 := by
    apply List.take_of_length_le; simp; omega
  rw [e2, unle_append_zeros]

/-- **tie**: `putUintLe(buf, x)` overwrites the first `min 8 len` bytes with the little-endian bytes of `x` -/
theorem gen_ciPutUintLe_eq_model (buf : List UInt8) (x : UInt64) :
    ciPutUintLe buf x = .ok ((B.le 8 x.toNat).take buf.length ++ buf.drop 8) := by
  unfold ciPutUintLe
  simp only [Go.putLeU64, List.length_replicate, Nat.le_refl, if_true, bind_ok, pure_eq_ok, Go.copy, leEncode_eq_le,
    List.drop_replicate, Nat.sub_self, List.replicate_zero, List.append_nil, B.le_length]
  congr 1
  by_cases hb : 8 ≤ buf.length
  · rw [Nat.min_eq_right hb, List.take_of_length_le (by simp [B.le_length]), List.take_of_length_le (by simp [B.le_length]; omega)]
  · rw [Nat.min_eq_left (by omega), List.drop_of_length_le (by omega), List.drop_of_length_le (by omega)]


/-! ### BucketHeader.Store / Load (compactindex.go) = the 16-byte bucket header of `CI.bucketHeader` / `CI.lookupB` -/

theorem length_16 {α : Type} (l : List α) (h : l.length = 16) :
    ∃ a0 a1 a2 a3 a4 a5 a6 a7 a8 a9 a10 a11 a12 a13 a14 a15, l = [a0,a1,a2,a3,a4,a5,a6,a7,a8,a9,a10,a11,a12,a13,a14,a15] :=
  match l, h with
  | [a0,a1,a2,a3,a4,a5,a6,a7,a8,a9,a10,a11,a12,a13,a14,a15], _ => ⟨a0,a1,a2,a3,a4,a5,a6,a7,a8,a9,a10,a11,a12,a13,a14,a15, rfl⟩

/-- **tie**: `BucketHeader.Store(buf)` writes `le4 HashDomain ‖ le4 NumEntries ‖ HashLen ‖ 0 ‖ le6 FileOffset` into a
    16-byte buffer — the layout `CI.bucketHeader` gives (FileOffset is truncated to 48 bits by both). -/
theorem gen_ciBucketHeaderStore_eq_model (b : Compactindexsized_BucketHeader) (buf : List UInt8) (hl : buf.length = 16) :
    ciBucketHeaderStore b buf =
      .ok (B.le 4 b.HashDomain.toNat ++ B.le 4 b.NumEntries.toNat ++ [b.HashLen, 0] ++ B.le 6 b.FileOffset.toNat) := by
  obtain ⟨b0,b1,b2,b3,b4,b5,b6,b7,b8,b9,b10,b11,b12,b13,b14,b15, rfl⟩ := length_16 buf hl
  unfold ciBucketHeaderStore
  simp [Go.slice, Go.putLeU32, Go.setSlice, Go.setIdx, gen_ciPutUintLe_eq_model, leEncode_eq_le, B.le, List.take, List.drop]

/-- **tie**: `BucketHeader.Load(buf)` reads the four fields from the offsets the model's `lookupB` reads them from. -/
theorem gen_ciBucketHeaderLoad_eq_model (b : Compactindexsized_BucketHeader) (buf : List UInt8) (hl : buf.length = 16) :
    ciBucketHeaderLoad b buf =
      .ok { b with HashDomain := UInt32.ofNat (B.unle (B.slice buf 0 4)), NumEntries := UInt32.ofNat (B.unle (B.slice buf 4 4)),
                   HashLen := buf.getD 8 0, FileOffset := UInt64.ofNat (B.unle (B.slice buf 10 6)) } := by
  obtain ⟨b0,b1,b2,b3,b4,b5,b6,b7,b8,b9,b10,b11,b12,b13,b14,b15, rfl⟩ := length_16 buf hl
  rfl

/-! ### unmarshalEntry (compactindex.go) = the entry decoding of `CI.lookupB` -/

/-- **tie**: `unmarshalEntry(buf)`: hash = little-endian value of the first `HashLen` bytes, value = the next
    `OffsetWidth` bytes — what `lookupB`'s getter extracts — whenever the entry buffer holds `HashLen + OffsetWidth`
    bytes, `HashLen ≤ 8` and the uint8 sum does not wrap (the reader refuses value sizes above 252). -/
theorem gen_ciUnmarshalEntry_eq_model (b : Compactindexsized_BucketDescriptor) (buf : List UInt8)
    (h8 : b.BucketHeader.HashLen.toNat ≤ 8)
    (hs : b.BucketHeader.HashLen.toNat + b.OffsetWidth.toNat ≤ buf.length)
    (hw : b.BucketHeader.HashLen.toNat + b.OffsetWidth.toNat < 256) :
    ciUnmarshalEntry b buf =
      .ok { Hash := UInt64.ofNat (B.unle (buf.take b.BucketHeader.HashLen.toNat)),
            Value := (buf.drop b.BucketHeader.HashLen.toNat).take b.OffsetWidth.toNat } := by
  unfold ciUnmarshalEntry
  have hsum : (b.BucketHeader.HashLen + b.OffsetWidth).toNat = b.BucketHeader.HashLen.toNat + b.OffsetWidth.toNat := by
    rw [UInt8.toNat_add]; exact Nat.mod_eq_of_lt hw
  have s1 : Go.slice buf 0 (b.BucketHeader.HashLen.toNat : Int) = _ :=
    slice_natCast buf 0 b.BucketHeader.HashLen.toNat (by omega) (by omega)
  have s2 := slice_natCast buf b.BucketHeader.HashLen.toNat (b.BucketHeader.HashLen.toNat + b.OffsetWidth.toNat) (by omega) hs
  rw [hsum]
  simp only [s1, s2, bind_ok, pure_eq_ok, gen_ciUintLe_eq_model,
    makeOf_natCast _ _ (Nat.lt_trans b.OffsetWidth.toNat_lt (by decide)), Go.copy, Nat.sub_zero, List.drop_zero,
    List.length_replicate, Nat.add_sub_cancel_left]
  have hlen : ((buf.drop b.BucketHeader.HashLen.toNat).take b.OffsetWidth.toNat).length = b.OffsetWidth.toNat := by
    simp; omega
  have ht8 : (buf.take b.BucketHeader.HashLen.toNat).take 8 = buf.take b.BucketHeader.HashLen.toNat := by
    apply List.take_of_length_le; simp; omega
  simp [hlen, ht8, List.take_take]

/-- **tie**: `bucketOffset(headerSize, i) = headerSize + 16·i` (no wrap for files below 2^62 bytes) -/
theorem gen_ciBucketOffset_eq_model (hs : Nat) (i : UInt64) (h1 : hs < 2^62) (h2 : i.toNat < 2^56) :
    ciBucketOffset (hs : Int) i = .ok ((hs + Generated.bucketHdrLen * i.toNat : Nat) : Int) := by
  unfold ciBucketOffset Go.intOfU64
  have e : Generated.bucketHdrLen = 16 := by decide
  rw [e]
  simp only [pure_eq_ok]
  rw [Go.wrap64_id (x := (i.toNat : Int)) (by omega) (by omega)]
  rw [Go.wrap64_id (x := (i.toNat : Int) * 16) (by omega) (by omega)]
  rw [Go.wrap64_id (by omega) (by omega)]
  congr 1; omega

example : ciUintLe [1, 2, 3] = .ok 0x030201 := by rfl
example : ciPutUintLe [9, 9, 9] 0x0a0b0c0d = .ok [0x0d, 0x0c, 0x0b] := by rfl
example : ciSearchEytzinger 4 0 3 7 (fun i => if i = 0 then .ok ⟨5, [1]⟩ else if i = 2 then .ok ⟨7, [2]⟩ else .error (.err "io"))
    = .ok [2] := by rfl
example : ciSearchEytzinger 4 0 3 4 (fun i => if i = 0 then .ok ⟨5, [1]⟩ else if i = 1 then .ok ⟨3, [0]⟩ else .error (.err "io"))
    = .error (.err "ErrNotFound") := by rfl

end GoTies.C04
