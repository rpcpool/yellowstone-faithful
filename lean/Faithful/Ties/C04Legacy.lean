import Faithful.Generated.GoFns
import Faithful.Lib.CompactIndexLegacy
import Faithful.Ties.C04
/-!
C04 ties for the two legacy formats the server still reads (`deprecated/compactindex`: 8-byte values,
`deprecated/compactindex36`: 36-byte values): their `searchEytzinger`, `hashUint64` and `Header.BucketHash`, translated
from /repo's working tree on every run, compute what the model (`CI.searchB`, `CI.bucketHash`, shared with the current
format) says.  Both are instances of the theorems about the shared bodies (`EytzTie.loop_eq_walk`,
`C04.bucketHashOf_eq_model`).
-/
namespace GoTies.C04L
open Go Generated.G GoTies

/-! ### deprecated/compactindex: searchEytzinger, BucketHash -/

def l8MkEntry (e : CI.Ent) : Compactindex_Entry := { Hash := UInt64.ofNat e.1, Value := UInt64.ofNat (B.unle e.2) }

def l8LookToM (ioErr : Err) : CI.Look → M UInt64
  | .found v => .ok (UInt64.ofNat (B.unle v))
  | .notFound => .error (.err "ErrNotFound")
  | .err => .error ioErr
  | .hang => .error .hang

/-- **tie** (deprecated/compactindex): `searchEytzinger(0, max, x, getter)` as translated from the source answers what the model's `searchB`
    answers, for every getter, table size below 2^62 and target; `max + 1` units of fuel suffice. -/
theorem gen_l8SearchEytzinger_eq_model (get : Nat → Option CI.Ent) (x : UInt64) (max : Nat) (hmax : max < 2^62) (ioErr : Err)
    (getter : Int → M Compactindex_Entry)
    (hget : ∀ i : Nat, i < max → getter (i : Int) = match get i with | none => .error ioErr | some e => .ok (l8MkEntry e))
    (hr : ∀ i e, get i = some e → e.1 < 2^64) :
    l8SearchEytzinger (max + 1) 0 (max : Int) x getter = l8LookToM ioErr (CI.searchB get x.toNat max (max + 1) 0) := by
  have h := EytzTie.loop_eq_walk (·.Hash) (·.Value) getter max hmax x (l8SearchEytzinger.loop1 (max + 1) getter max x)
    (fun _ _ => rfl) get Prod.fst l8MkEntry (fun e => UInt64.ofNat (B.unle e.2)) ioErr
    (fun i hi h => by rw [hget i hi, h]) (fun i a hi h => by rw [hget i hi, h]) hr (fun _ => rfl) (fun _ _ => rfl)
    (max + 1) 0 (by omega) (by omega)
  simp only [Int.natCast_zero] at h
  simp only [l8SearchEytzinger, h, C04.searchB_eq_walk]
  cases EytzTie.walk get Prod.fst x.toNat max (max + 1) 0 <;> rfl

theorem gen_l8HashUint64_eq_model (x : UInt64) : l8HashUint64 x = .ok (H.hashUint64 x) := by
  simp only [l8HashUint64, H.hashUint64, pure, Except.pure]

/-- **tie** (deprecated/compactindex): `Header.BucketHash(key)` as translated from the source = the model's `bucketHash` -/
theorem gen_l8BucketHash_eq_model (h : Compactindex_Header) (key : List UInt8) (hn : h.NumBuckets ≠ 0) :
    l8BucketHash H.xxhash64 64 h key =
      match CI.bucketHash key h.NumBuckets.toNat with
      | some b => .ok (UInt64.ofNat b)
      | none => .error .hang :=
  C04.bucketHashOf_eq_model (l8BucketHash.loop1 H.xxhash64 64)
    (fun r => C04.bucketLoop_eq_model l8HashUint64 gen_l8HashUint64_eq_model r _ (fun _ => rfl) (fun _ _ => rfl))
    h.NumBuckets key hn

/-! ### deprecated/compactindex36: searchEytzinger, BucketHash -/

def l36MkEntry (e : CI.Ent) : Compactindex36_Entry := { Hash := UInt64.ofNat e.1, Value := e.2 }

def l36LookToM (ioErr : Err) : CI.Look → M (List UInt8)
  | .found v => .ok (v)
  | .notFound => .error (.err "ErrNotFound")
  | .err => .error ioErr
  | .hang => .error .hang

/-- **tie** (deprecated/compactindex36): `searchEytzinger(0, max, x, getter)` as translated from the source answers what the model's `searchB`
    answers, for every getter, table size below 2^62 and target; `max + 1` units of fuel suffice. -/
theorem gen_l36SearchEytzinger_eq_model (get : Nat → Option CI.Ent) (x : UInt64) (max : Nat) (hmax : max < 2^62) (ioErr : Err)
    (getter : Int → M Compactindex36_Entry)
    (hget : ∀ i : Nat, i < max → getter (i : Int) = match get i with | none => .error ioErr | some e => .ok (l36MkEntry e))
    (hr : ∀ i e, get i = some e → e.1 < 2^64) :
    l36SearchEytzinger (max + 1) 0 (max : Int) x getter = l36LookToM ioErr (CI.searchB get x.toNat max (max + 1) 0) := by
  have h := EytzTie.loop_eq_walk (·.Hash) (·.Value) getter max hmax x (l36SearchEytzinger.loop1 (max + 1) getter max x)
    (fun _ _ => rfl) get Prod.fst l36MkEntry Prod.snd ioErr
    (fun i hi h => by rw [hget i hi, h]) (fun i a hi h => by rw [hget i hi, h]) hr (fun _ => rfl) (fun _ _ => rfl)
    (max + 1) 0 (by omega) (by omega)
  simp only [Int.natCast_zero] at h
  simp only [l36SearchEytzinger, h, C04.searchB_eq_walk]
  cases EytzTie.walk get Prod.fst x.toNat max (max + 1) 0 <;> rfl

theorem gen_l36HashUint64_eq_model (x : UInt64) : l36HashUint64 x = .ok (H.hashUint64 x) := by
  simp only [l36HashUint64, H.hashUint64, pure, Except.pure]

/-- **tie** (deprecated/compactindex36): `Header.BucketHash(key)` as translated from the source = the model's `bucketHash` -/
theorem gen_l36BucketHash_eq_model (h : Compactindex36_Header) (key : List UInt8) (hn : h.NumBuckets ≠ 0) :
    l36BucketHash H.xxhash64 64 h key =
      match CI.bucketHash key h.NumBuckets.toNat with
      | some b => .ok (UInt64.ofNat b)
      | none => .error .hang :=
  C04.bucketHashOf_eq_model (l36BucketHash.loop1 H.xxhash64 64)
    (fun r => C04.bucketLoop_eq_model l36HashUint64 gen_l36HashUint64_eq_model r _ (fun _ => rfl) (fun _ _ => rfl))
    h.NumBuckets key hn

end GoTies.C04L
