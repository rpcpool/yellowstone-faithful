import Faithful.Generated.GoFns
import Faithful.Lib.GsfaLog
import Faithful.Ties.Basic
import Faithful.Ties.C01
import Faithful.Ties.LinkedLog
/-!
C06 / C12 / C13 tie: the record reader of the address index's linked log — `LinkedLog.ReadWithSize` and
`decompressIndexes` (`gsfa/linkedlog/linked-log.go`), translated from /repo's working tree on every run — is the model's
`Gsfa.readWithSize` (the function `record_roundtrip`, `walk_chain` and `gsfa_roundtrip` of C06 are stated about): the 256 MiB
cap, the file-size guard, the uvarint prefix whose width is taken from the record itself, the 9-byte pointer to the previous
record, zstd (an arbitrary partial function) and the entry decoder.

`*os.File` is an in-memory `io.ReaderAt` here (`memRd file`), `os.File.Stat().Size()` the length of the file.
-/
namespace GoTies.LLRead
open Go Generated.G GoTies GoTies.BkHas GoTies.LinkedLog

/-- zstd as the translated code sees it: the partial function `Z` in the monad -/
def zOf (Z : List UInt8 → Option (List UInt8)) : List UInt8 → M (List UInt8) := fun b =>
  match Z b with
  | some r => .ok r
  | none => .error (.err "zstd")

/-- `parseEntries` does not depend on the fuel once the fuel exceeds the length of the input -/
theorem parseEntries_fuel_drop (buf : List UInt8) : ∀ (f1 f2 p : Nat), buf.length - p < f1 → buf.length - p < f2 →
    Gsfa.parseEntries f1 (buf.drop p) = Gsfa.parseEntries f2 (buf.drop p) := by
  intro f1
  induction f1 with
  | zero => intro f2 p h; omega
  | succ f1 ih =>
    intro f2 p h1 h2
    cases f2 with
    | zero => omega
    | succ f2 =>
      rw [parseEntries_succ, parseEntries_succ]
      cases hs : frSpec buf p with
      | eof => rfl
      | bad => rfl
      | ok e p' =>
        obtain ⟨hlt, hle⟩ := frSpec_bounds buf p e p' hs
        simp only
        rw [ih f2 p' (by omega) (by omega)]

theorem parseEntries_fuel (f1 f2 : Nat) (b : List UInt8) (h1 : b.length < f1) (h2 : b.length < f2) :
    Gsfa.parseEntries f1 b = Gsfa.parseEntries f2 b := by
  have := parseEntries_fuel_drop b f1 f2 0 (by omega) (by omega)
  simpa using this

def decompressM (zd : List UInt8 → M (List UInt8)) (fuel : Nat) (data : List UInt8) :
    M (List Linkedlog_OffsetAndSizeAndSlot × Go.Error) :=
  Go.catchErr (zd data) ([] : List UInt8) >>= fun t1 =>
  if (t1.2 != Go.Error.nil) = true then
    pure (([] : List Linkedlog_OffsetAndSizeAndSlot), Go.Error.wrap "error while decompressing data: %w" t1.2)
  else oassSliceFromBytes fuel t1.1 >>= fun t2 => pure (t2.1, t2.2)

theorem decompress_unfold (zd : List UInt8 → M (List UInt8)) (fuel : Nat) (data : List UInt8) :
    llDecompressIndexes zd fuel data = decompressM zd fuel data := rfl

/-- the outcome of the model's `decompress` + `parseEntries` as the Go result -/
def entriesRes : Gsfa.Res (List Gsfa.Entry) → M (List Linkedlog_OffsetAndSizeAndSlot × Go.Error) → Prop
  | .ok es, r => r = .ok (es.map toGo, Go.Error.nil)
  | .error _, r => ∃ e, e ≠ Go.Error.nil ∧ r = .ok ([], e)

theorem decompress_eq (Z : List UInt8 → Option (List UInt8)) (fuel : Nat) (data : List UInt8)
    (hZ : ∀ r, Z data = some r → r.length < fuel ∧ r.length < 2 ^ 62) :
    entriesRes (match Z data with
        | none => .error (.err "error while decompressing indexes")
        | some raw => Gsfa.parseEntries (raw.length + 1) raw)
      (llDecompressIndexes (zOf Z) fuel data) := by
  rw [decompress_unfold]
  unfold decompressM zOf
  cases hz : Z data with
  | none => exact ⟨Go.Error.other "zstd", nofun, rfl⟩
  | some raw =>
    obtain ⟨h1, h2⟩ := hZ raw hz
    simp only
    rw [guard_ok _ raw _ rfl, parseEntries_fuel (raw.length + 1) fuel raw (by omega) h1]
    have := gen_oassSliceFromBytes_eq_model raw fuel h1 h2
    cases hp : Gsfa.parseEntries fuel raw with
    | ok es =>
      rw [hp] at this
      show _ >>= _ = _
      rw [this]; rfl
    | error x =>
      rw [hp] at this
      obtain ⟨t, ht⟩ := this
      exact ⟨Go.Error.other t, nofun, by rw [ht]; rfl⟩

/-- `ReadWithSize` from the point where the record bytes are in hand -/
def rwsTail (zd : List UInt8 → M (List UInt8)) (fuel : Nat) (record : List UInt8) (sz : UInt64) :
    M (List Linkedlog_OffsetAndSizeAndSlot × Indexes_OffsetAndSize × Go.Error) :=
  if (decide ((Go.uvarint record).2 ≤ 0) || Go.u64OfInt (Go.uvarint record).2 + (Go.uvarint record).1 != sz
      || decide ((Go.uvarint record).1 < 9)) = true then
    pure ([], Indexes_OffsetAndSize.zero, Go.Error.other "invalid record of size %d at offset %d")
  else Go.slice record (Go.uvarint record).2 (Go.len record) >>= fun data =>
  Go.slice data 0 (Go.wrap64 (Go.len data - 9)) >>= fun indexesBytes =>
  Go.slice data (Go.wrap64 (Go.len data - 9)) (Go.len data) >>= fun t7 =>
  Go.catchErr (oasFromBytes Indexes_OffsetAndSize.zero t7) Indexes_OffsetAndSize.zero >>= fun t8 =>
  if (t8.2 != Go.Error.nil) = true then
    pure ([], Indexes_OffsetAndSize.zero, Go.Error.wrap "error while reading next offset: %w" t8.2)
  else llDecompressIndexes zd fuel indexesBytes >>= fun t9 =>
  if (t9.2 != Go.Error.nil) = true then
    pure ([], Indexes_OffsetAndSize.zero, Go.Error.wrap "error while decompressing indexes: %w" t9.2)
  else pure (t9.1, t8.1, Go.Error.nil)

/-- the translated `ReadWithSize` without the local re-bindings (`rws_unfold`: `rfl`) -/
def rwsM (fs : Linkedlog_LinkedLog → M UInt64) (zd : List UInt8 → M (List UInt8)) (fuel : Nat) (s : Linkedlog_LinkedLog)
    (o sz : UInt64) : M (List Linkedlog_OffsetAndSizeAndSlot × Indexes_OffsetAndSize × Go.Error) :=
  if decide (sz > 268435456) = true then
    pure ([], Indexes_OffsetAndSize.zero, Go.Error.other "compacted indexes length too large: %d")
  else Go.catchErr (fs s) 0 >>= fun t1 =>
  if (t1.2 != Go.Error.nil) = true then pure ([], Indexes_OffsetAndSize.zero, t1.2)
  else if (decide (o > t1.1) || decide (sz > t1.1 - o)) = true then
    pure ([], Indexes_OffsetAndSize.zero, Go.Error.other "record of size %d at offset %d exceeds the file size %d")
  else Go.makeOf (0 : UInt8) (sz.toNat : Int) >>= fun t2 =>
  let t3 := s.file (Go.len t2) (Go.intOfU64 o)
  if (t3.2 != Go.Error.nil) = true then pure ([], Indexes_OffsetAndSize.zero, t3.2)
  else rwsTail zd fuel (t3.1 ++ t2.drop t3.1.length) sz

theorem rws_unfold (fs : Linkedlog_LinkedLog → M UInt64) (zd : List UInt8 → M (List UInt8)) (fuel : Nat) (s : Linkedlog_LinkedLog)
    (o sz : UInt64) : llReadWithSize fs zd fuel s o sz = rwsM fs zd fuel s o sz := rfl

/-- how the model's answer reads as the Go result -/
def resOf : Gsfa.Res (List Gsfa.Entry × Gsfa.Ptr) →
    M (List Linkedlog_OffsetAndSizeAndSlot × Indexes_OffsetAndSize × Go.Error) → Prop
  | .ok (es, ptr), r => r = .ok (es.map toGo, { Offset := UInt64.ofNat ptr.off, Size := UInt64.ofNat ptr.size }, Go.Error.nil)
  | .error _, r => ∃ e, e ≠ Go.Error.nil ∧ r = .ok ([], Indexes_OffsetAndSize.zero, e)

theorem resOf_err {x : Gsfa.Fail} {e : Go.Error} (he : e ≠ Go.Error.nil) :
    resOf (.error x) (.ok ([], Indexes_OffsetAndSize.zero, e)) := ⟨e, he, rfl⟩

theorem u64lt (a b : UInt64) : (a > b) ↔ a.toNat > b.toNat := by
  rw [gt_iff_lt, UInt64.lt_iff_toNat_lt]

theorem guard_iff (o sz : UInt64) (L : Nat) (hL : L < 2 ^ 62) :
    ((decide (o > UInt64.ofNat L) || decide (sz > UInt64.ofNat L - o)) = true) ↔ (o.toNat > L ∨ sz.toNat > L - o.toNat) := by
  have hLn := u64_toNat L (by omega)
  simp only [Bool.or_eq_true, decide_eq_true_eq, u64lt, hLn]
  by_cases h : o.toNat > L
  · simp [h]
  · have hsub : (UInt64.ofNat L - o).toNat = L - o.toNat := by
      rw [UInt64.toNat_sub_of_le _ _ (by rw [UInt64.le_iff_toNat_le, hLn]; omega), hLn]
    rw [hsub]

theorem sum_ne_iff (n l size : Nat) (hn : n ≤ size) (hn10 : n ≤ 10) (hl : l < 2 ^ 64) (hs : size < 2 ^ 64) :
    ((n + l) % 2 ^ 64 ≠ size) ↔ (n + l ≠ size) := by
  omega

theorem cond_iff (l n : Nat) (size : UInt64) (hn0 : 0 < n) (hn : n ≤ size.toNat) (hn10 : n ≤ 10) (hl : l < 2 ^ 64) :
    ((decide ((n : Int) ≤ 0) || Go.u64OfInt (n : Int) + UInt64.ofNat l != size || decide (UInt64.ofNat l < 9)) = true)
      ↔ (n + l ≠ size.toNat ∨ l < 9) := by
  have hln := u64_toNat l hl
  have h2 : Go.u64OfInt (n : Int) = UInt64.ofNat n := by
    rw [Go.u64OfInt, Int.emod_eq_of_lt (by omega) (by omega), Int.toNat_natCast]
  have h3 : (UInt64.ofNat n + UInt64.ofNat l != size) = true ↔ n + l ≠ size.toNat := by
    rw [bne_iff_ne, Ne, ← UInt64.toNat_inj, UInt64.toNat_add, hln, u64_toNat n (by omega)]
    exact sum_ne_iff n l size.toNat hn hn10 hl size.toNat_lt
  have h4 : (UInt64.ofNat l < 9) ↔ l < 9 := by rw [UInt64.lt_iff_toNat_lt, hln]; rfl
  rw [decide_eq_false (show ¬ (n : Int) ≤ 0 by omega), h2]
  simp only [Bool.false_or, Bool.or_eq_true, decide_eq_true_eq, h3, h4]

/-- the model's `readWithSize` after the size cap, on the record bytes (restated without local definitions) -/
def modelTail (Zs : Gsfa.Zstd) (rec_ : List UInt8) (size : Nat) : Gsfa.Res (List Gsfa.Entry × Gsfa.Ptr) :=
  if rec_.length < size then .error (.err "EOF") else
  match Gsfa.uvarint64 rec_ with
  | none => .error (.err "invalid record")
  | some (l, n) =>
    if n + l ≠ size ∨ l < 9 then .error (.err "invalid record") else
    match Zs.decompress ((rec_.drop n).take ((rec_.drop n).length - 9)) with
    | none => .error (.err "error while decompressing indexes")
    | some raw =>
      match Gsfa.parseEntries (raw.length + 1) raw with
      | .ok es => .ok (es, Gsfa.ptrOfBytes ((rec_.drop n).drop ((rec_.drop n).length - 9)))
      | .error e => .error e

theorem model_unfold (Zs : Gsfa.Zstd) (file : List UInt8) (off size : Nat) :
    Gsfa.readWithSize Zs file off size =
      if size > Gsfa.mib256 then .error (.err "compacted indexes length too large")
      else modelTail Zs (B.slice file off size) size := rfl

theorem modelTail_short (Zs : Gsfa.Zstd) (rec_ : List UInt8) (size : Nat) (h : rec_.length < size ∨ rec_.length = 0) :
    ∃ x, modelTail Zs rec_ size = .error x := by
  unfold modelTail
  split
  · exact ⟨_, rfl⟩
  · rw [List.eq_nil_of_length_eq_zero (h.resolve_left ‹_›)]; exact ⟨_, rfl⟩

theorem wrap_ne_nil (t : String) (e : Go.Error) : Go.Error.wrap t e ≠ Go.Error.nil := by
  cases e <;> exact fun h => nomatch h

theorem rws_finish (R : Gsfa.Res (List Gsfa.Entry)) (g : M (List Linkedlog_OffsetAndSizeAndSlot × Go.Error)) (ptr : Gsfa.Ptr) :
    entriesRes R g → resOf (match R with
        | .ok es => .ok (es, ptr)
        | .error e => .error e)
      (g >>= fun t9 =>
        if (t9.2 != Go.Error.nil) = true then
          pure ([], Indexes_OffsetAndSize.zero, Go.Error.wrap "error while decompressing indexes: %w" t9.2)
        else pure (t9.1, { Offset := UInt64.ofNat ptr.off, Size := UInt64.ofNat ptr.size }, Go.Error.nil)) := by
  cases R with
  | ok es => intro h; rw [show g = _ from h]; rfl
  | error x =>
    intro ⟨e, hne, he⟩
    rw [he, bind_ok, if_pos (bne_iff_ne.mpr hne)]
    exact ⟨_, wrap_ne_nil _ e, rfl⟩

theorem rwsTail_eq (Zs : Gsfa.Zstd) (fuel : Nat) (rec_ : List UInt8) (size : UInt64) (hrl2 : rec_.length = size.toNat)
    (hsz : size.toNat < 2 ^ 62) (hZ : ∀ b r, Zs.decompress b = some r → r.length < fuel ∧ r.length < 2 ^ 62) :
    resOf (modelTail Zs rec_ size.toNat) (rwsTail (zOf Zs.decompress) fuel rec_ size) := by
  unfold rwsTail modelTail
  rw [if_neg (by omega)]
  have hu := uvarint_eq_model rec_
  cases hm : Gsfa.uvarint64 rec_ with
  | none =>
    rw [hm] at hu
    rw [if_pos (by rw [decide_eq_true hu]; rfl)]
    exact resOf_err nofun
  | some q =>
    obtain ⟨l, n⟩ := q
    rw [hm] at hu
    obtain ⟨_, hnle, hn10, hl64⟩ := Gsfa.uvarint64_bounds hm
    have hci := cond_iff l n size hu.2 (by omega) hn10 hl64
    rw [hu.1]
    simp only
    by_cases hbad : n + l ≠ size.toNat ∨ l < 9
    · rw [if_pos (hci.mpr hbad), if_pos hbad]
      exact resOf_err nofun
    · rw [if_neg (mt hci.mp hbad), if_neg hbad, slice_to_end rec_ n hnle, bind_ok]
      have hdl : (rec_.drop n).length = l := by rw [List.length_drop]; omega
      generalize rec_.drop n = data at hdl ⊢
      have hlen9 : Go.wrap64 (Go.len data - 9) = ((l - 9 : Nat) : Int) := by
        unfold Go.len; rw [hdl, Go.wrap64_id] <;> omega
      have h9 : (data.drop (l - 9)).length = 9 := by rw [List.length_drop]; omega
      rw [hlen9, slice_upto data _ (by omega), bind_ok, slice_to_end data _ (by omega), bind_ok,
        C01.gen_oasFromBytes_eq_model _ _ h9, guard_ok _ _ _ rfl, hdl]
      have hdec := decompress_eq Zs.decompress fuel (data.take (l - 9)) (hZ _)
      cases hzd : Zs.decompress (data.take (l - 9)) with
      | none => rw [hzd] at hdec; exact rws_finish _ _ (Gsfa.ptrOfBytes (data.drop (l - 9))) hdec
      | some raw => rw [hzd] at hdec; exact rws_finish _ _ (Gsfa.ptrOfBytes (data.drop (l - 9))) hdec

/-- **tie**: `LinkedLog.ReadWithSize(offset, size)`, as translated from the source, over an in-memory file = the model's
    `Gsfa.readWithSize` — for every file content below 2^62 bytes, every offset and size, every partial function in the
    place of zstd whose outputs are shorter than the fuel: the entries and the pointer to the previous record, or a
    non-nil error exactly when the model fails; never a panic -/
theorem gen_llReadWithSize_eq_model (Zs : Gsfa.Zstd) (file : List UInt8) (fuel : Nat) (s : Linkedlog_LinkedLog)
    (off size : UInt64) (hfile : s.file = memRd file) (hlen : file.length < 2 ^ 62)
    (hZ : ∀ b r, Zs.decompress b = some r → r.length < fuel ∧ r.length < 2 ^ 62) :
    resOf (Gsfa.readWithSize Zs file off.toNat size.toNat)
      (llReadWithSize (fun _ => .ok (UInt64.ofNat file.length)) (zOf Zs.decompress) fuel s off size) := by
  rw [rws_unfold, model_unfold, show Gsfa.mib256 = 268435456 from rfl]
  unfold rwsM
  have hslen : (B.slice file off.toNat size.toNat).length = min size.toNat (file.length - off.toNat) := by
    unfold B.slice; rw [List.length_take, List.length_drop]
  by_cases hbig : size.toNat > 268435456
  · rw [if_pos hbig, if_pos (decide_eq_true ((u64lt ..).mpr hbig))]
    exact resOf_err nofun
  · rw [if_neg hbig, if_neg fun h => hbig ((u64lt ..).mp (of_decide_eq_true h)), guard_ok _ (UInt64.ofNat file.length) _ rfl]
    have hg := guard_iff off size file.length hlen
    by_cases hout : off.toNat > file.length ∨ size.toNat > file.length - off.toNat
    · obtain ⟨x, hx⟩ := modelTail_short Zs _ size.toNat (show _ ∨ _ by rw [hslen]; omega)
      rw [if_pos (hg.mpr hout), hx]
      exact resOf_err nofun
    · rw [if_neg (mt hg.mp hout), makeOf_natCast _ _ (by omega), bind_ok, hfile, len_replicate,
        show Go.intOfU64 off = (off.toNat : Int) from wrap64_natCast _ (by omega), memRd_nat, Int.toNat_natCast]
      by_cases hend : off.toNat ≥ file.length
      · -- an empty record at the very end of the file: `ReadAt` answers io.EOF, the model finds no uvarint
        obtain ⟨x, hx⟩ := modelTail_short Zs _ size.toNat (show _ ∨ _ by rw [hslen]; omega)
        rw [if_pos hend, hx]
        exact resOf_err nofun
      · rw [if_neg hend, if_neg (show ¬ file.length - off.toNat < size.toNat by omega)]
        have hrl : (B.slice file off.toNat size.toNat).length = size.toNat := by rw [hslen]; omega
        simp only [Bool.false_eq_true, if_false]
        rw [show (file.drop off.toNat).take size.toNat = B.slice file off.toNat size.toNat from rfl,
          pad_full _ _ _ hrl]
        exact rwsTail_eq Zs fuel _ size hrl (by omega) hZ

/-- never a panic, never out of fuel -/
theorem gen_llReadWithSize_total (Zs : Gsfa.Zstd) (file : List UInt8) (fuel : Nat) (s : Linkedlog_LinkedLog)
    (off size : UInt64) (hfile : s.file = memRd file) (hlen : file.length < 2 ^ 62)
    (hZ : ∀ b r, Zs.decompress b = some r → r.length < fuel ∧ r.length < 2 ^ 62) :
    ∃ r, llReadWithSize (fun _ => .ok (UInt64.ofNat file.length)) (zOf Zs.decompress) fuel s off size = .ok r := by
  have := gen_llReadWithSize_eq_model Zs file fuel s off size hfile hlen hZ
  cases h : Gsfa.readWithSize Zs file off.toNat size.toNat with
  | ok v => obtain ⟨es, ptr⟩ := v; rw [h] at this; exact ⟨_, this⟩
  | error x => rw [h] at this; obtain ⟨e, _, he⟩ := this; exact ⟨_, he⟩

/-- **on the code in the tree**: the record `Put` writes for a batch (`Gsfa.mkRecord`: uvarint prefix, compressed entries
    newest first, pointer to the previous record), read back by the translated `ReadWithSize` at the offset and with the
    size `Put` reported, yields the batch newest first and the previous pointer — for every lawful zstd, every batch,
    every position in the file (via `Gsfa.record_roundtrip`) -/
theorem gen_record_roundtrip (Zs : Gsfa.Zstd) (hLaw : Zs.Lawful) (es : List Gsfa.Entry) (prev : Gsfa.Ptr) (pb : List UInt8)
    (hpb : Gsfa.ptrBytes prev = .ok pb) (hprev : prev.size < 2 ^ 32)
    (file : List UInt8) (off size : UInt64) (fuel : Nat) (s : Linkedlog_LinkedLog)
    (hsz : size.toNat = (Gsfa.mkRecord Zs es pb).length)
    (hslice : B.slice file off.toNat (Gsfa.mkRecord Zs es pb).length = Gsfa.mkRecord Zs es pb)
    (hsize : (Gsfa.mkRecord Zs es pb).length ≤ Gsfa.mib256)
    (hfile : s.file = memRd file) (hlen : file.length < 2 ^ 62)
    (hZ : ∀ b r, Zs.decompress b = some r → r.length < fuel ∧ r.length < 2 ^ 62) :
    llReadWithSize (fun _ => .ok (UInt64.ofNat file.length)) (zOf Zs.decompress) fuel s off size =
      .ok (es.reverse.map toGo, { Offset := UInt64.ofNat prev.off, Size := UInt64.ofNat prev.size }, Go.Error.nil) := by
  have := gen_llReadWithSize_eq_model Zs file fuel s off size hfile hlen hZ
  rw [hsz, Gsfa.record_roundtrip Zs hLaw es prev pb hpb hprev file off.toNat hslice hsize] at this
  exact this

end GoTies.LLRead
