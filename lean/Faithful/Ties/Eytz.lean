import Faithful.Generated.GoFns
import Faithful.Lib.EytzSearch
import Faithful.Lib.EytzLayout
import Faithful.Ties.Basic
/-!
What the five packages with an eytzinger search table share (bucketteer `bk`, deprecated/bucketteer `bk1`,
compactindexsized `ci`, deprecated/compactindex `l8`, deprecated/compactindex36 `l36`): the recursive `eytzinger(in, out, i, k)` that lays a table out and the
loop of `searchEytzinger(min, max, x, getter)` that reads it exist in five textual copies each, and the translator, run on
/repo's working tree, emits five Lean functions for each.

Each Go body is written here once, with the recursive call as a parameter (`eytzBody`, `searchBody`); a translated copy is an
instance by `rfl`, and a theorem about any function that unfolds to the body holds for all five:
`eytzinger_eq_fill` (the layout recursion computes `Eytz.fill`, the function `fill_spec` and the search theorems are about)
and `loop_eq_walk` (the search loop follows the pure `walk`).
-/
namespace GoTies.EytzTie
open Go Generated.G GoTies

theorem ofNat_eq_iff {k : Nat} (hk : k < 2 ^ 64) (x : UInt64) : UInt64.ofNat k = x ↔ k = x.toNat := by
  rw [← UInt64.toNat_inj, UInt64.toNat_ofNat', Nat.mod_eq_of_lt hk]

theorem ofNat_lt_iff {k : Nat} (hk : k < 2 ^ 64) (x : UInt64) : UInt64.ofNat k < x ↔ k < x.toNat := by
  rw [UInt64.lt_iff_toNat_lt, UInt64.toNat_ofNat', Nat.mod_eq_of_lt hk]

variable {T : Type} [Inhabited T]

/-! ### the layout: `eytzinger(in, out, i, k)` = `Eytz.fill` -/

/-- the body of the Go function `eytzinger(in, out, i, k)`; `rec` stands for the two recursive calls -/
def eytzBody (rec : List T → List T → Int → Int → M (Int × List T)) (in_ out : List T) (i k : Int) :
    M (Int × List T) := do
  let mut out := out
  let mut i := i
  if (decide (k ≤ (Go.len in_))) then
    let t1 ← rec in_ out i (Go.wrap64 ((2 : Int) * k))
    out := t1.2
    i := t1.1
    let t2 ← Go.idx in_ i
    let t3 ← Go.setIdx out (Go.wrap64 (k - (1 : Int))) t2
    out := t3
    i := (Go.wrap64 (i + (1 : Int)))
    let t4 ← rec in_ out i (Go.wrap64 ((Go.wrap64 ((2 : Int) * k)) + (1 : Int)))
    out := t4.2
    i := t4.1
  return (i, out)

/-- the index arithmetic of one call on a subtree `k ≤ n` of size `sk = s1 + 1 + s2` laid out from `i`, the left call
    having returned `x = i + s1`: nothing wraps, the reads and writes are in range, and both children fit, with fuel -/
theorem eytz_step_arith {n k i x sk s1 s2 fu : Nat} (hn61 : n < 2 ^ 61) (hk : 0 < k) (hkn : k ≤ n) (hs : sk = s1 + 1 + s2)
    (hfit : i + sk ≤ n) (hx : x = i + s1) (hfuel : n + 1 < fu + 1 + k) :
    (k < 2 ^ 62 ∧ k < 2 ^ 63 ∧ 2 * k + 1 < 2 ^ 63 ∧ x + 1 < 2 ^ 63 ∧ x < n ∧ k - 1 < n) ∧
    (0 < 2 * k ∧ 2 * k ≤ 2 * n + 1 ∧ i + s1 ≤ n ∧ n + 1 < fu + 2 * k) ∧
    (0 < 2 * k + 1 ∧ 2 * k + 1 ≤ 2 * n + 1 ∧ x + 1 + s2 ≤ n ∧ n + 1 < fu + (2 * k + 1)) ∧ 0 < fu := by
  omega

/-- **tie**: a function that unfolds to the body of `eytzinger` computes `Eytz.fill`, for every input length below 2^61,
    every subtree `k ≥ 1` and start index `i` whose subtree fits the input (`i + size n k ≤ n`; `sortWithCompare` calls it
    with `i = 0, k = 1`, and `size n 1 = n`); `n + 2 - k` units of fuel suffice: the recursion terminates. -/
theorem eytzinger_eq_fill (f : Nat → List T → List T → Int → Int → M (Int × List T))
    (hf : ∀ fuel in_ out i k, f (fuel + 1) in_ out i k = eytzBody (f fuel) in_ out i k)
    (inp : List T) (n : Nat) (hn : inp.length = n) (hn61 : n < 2 ^ 61)
    (fuel k i : Nat) (out : Array T) (hk : 0 < k) (hk2 : k ≤ 2 * n + 1) (hsz : out.size = n)
    (hfit : i + Eytz.size n k ≤ n) (hfuel : n + 1 - k < fuel) :
    f fuel inp out.toList (i : Int) (k : Int) =
      .ok (((Eytz.fill inp.toArray n k i out).1 : Int), (Eytz.fill inp.toArray n k i out).2.toList) := by
  subst hn
  -- the statement has the fuel bound with a truncated subtraction (dear in `omega`); inside, the same bound as a sum,
  -- which needs `0 < fuel` said separately
  have hpos : 0 < fuel := by omega
  replace hfuel : inp.length + 1 < fuel + k := by omega
  induction fuel generalizing k i out with
  | zero => omega
  | succ fu ih =>
    rw [hf, eytzBody, Eytz.fill]
    by_cases h : 0 < k ∧ k ≤ inp.length
    · have hle : (k : Int) ≤ Go.len inp := Int.ofNat_le.mpr h.2
      obtain ⟨h1, h2, -⟩ := Eytz.fill_spec inp.toArray inp.length (2 * k) i out (Nat.mul_pos (by decide) hk) hsz
      have ih1 := ih (2 * k) i out
      have ih2 := ih (2 * k + 1) ((Eytz.fill inp.toArray inp.length (2 * k) i out).1 + 1)
      -- `size` and `fill` are well-founded recursions that `omega` must not see (the kernel would unfold them): the
      -- arithmetic is done on variables, in `eytz_step_arith`
      rw [Eytz.size_pos h] at hfit
      obtain ⟨⟨a1, a2, a3, a4, a5, a6⟩, ⟨l1, l2, l3, l4⟩, ⟨r1, r2, r3, r4⟩, hfu⟩ :=
        eytz_step_arith hn61 hk h.2 rfl hfit h1 hfuel
      generalize Eytz.fill inp.toArray inp.length (2 * k) i out = fl at h2 ih1 ih2 a4 a5 r3 ⊢
      simp only [hle, decide_true, if_true, dif_pos h]
      rw [wrap64_two_mul k a1, ih1 l1 l2 hsz l3 hfu l4, bind_ok, idx_natCast inp fl.1 a5, bind_ok,
        wrap64_sub_one k hk a2, setIdx_natCast _ _ _ (by rw [Array.length_toList, h2]; exact a6), bind_ok,
        wrap64_natCast_succ _ a4, wrap64_natCast_succ _ a3]
      have e : fl.2.toList.set (k - 1) (inp.getD fl.1 default) =
          (fl.2.setIfInBounds (k - 1) (inp.toArray.getD fl.1 default)).toList := by
        simp [Array.getD_eq_getD_getElem?, List.getD_eq_getElem?_getD]
      rw [e, ih2 _ r1 r2 (by rw [Array.size_setIfInBounds, h2]) r3 hfu r4]
      rfl
    · have hle : ¬ (k : Int) ≤ Go.len inp := fun hc => h ⟨hk, Int.ofNat_le.mp hc⟩
      simp only [hle, decide_false, dif_neg h, if_false, Bool.false_eq_true, pure_eq_ok]

/-- `sortWithCompare`'s call `eytzinger(a, sorted, 0, 1)` on a fresh `sorted` of the same length produces `Eytz.layout` -/
theorem eytzinger_layout {β : Type} [Inhabited β]
    (f : Nat → List (Nat × β) → List (Nat × β) → Int → Int → M (Int × List (Nat × β)))
    (hf : ∀ fuel in_ out i k, f (fuel + 1) in_ out i k = eytzBody (f fuel) in_ out i k)
    (inp : List (Nat × β)) (hn61 : inp.length < 2 ^ 61) :
    f (inp.length + 1) inp (List.replicate inp.length default) 0 1 =
      .ok ((inp.length : Int), (Eytz.layout inp.toArray).toList) := by
  have h := eytzinger_eq_fill f hf inp inp.length rfl hn61 (inp.length + 1) 1 0 (Array.replicate inp.length default)
    (by omega) (by omega) (by simp) (by rw [Eytz.size_one]; omega) (by omega)
  have h1 := (Eytz.fill_spec inp.toArray inp.length 1 0 (Array.replicate inp.length default) (by omega) (by simp)).1
  rw [Eytz.size_one, Nat.zero_add] at h1
  rw [h1] at h
  simpa [Eytz.layout] using h

theorem gen_bkEytzinger_eq_fill (inp : List T) (n : Nat) (hn : inp.length = n) (hn61 : n < 2 ^ 61)
    (k i : Nat) (out : Array T) (fuel : Nat) (hk : 0 < k) (hk2 : k ≤ 2 * n + 1) (hsz : out.size = n)
    (hfit : i + Eytz.size n k ≤ n) (hfuel : n + 1 - k < fuel) :
    bkEytzinger fuel inp out.toList (i : Int) (k : Int) =
      .ok (((Eytz.fill inp.toArray n k i out).1 : Int), (Eytz.fill inp.toArray n k i out).2.toList) :=
  eytzinger_eq_fill bkEytzinger (fun _ _ _ _ _ => rfl) inp n hn hn61 fuel k i out hk hk2 hsz hfit hfuel

theorem gen_bkEytzinger_layout {β : Type} [Inhabited β] (inp : List (Nat × β)) (hn61 : inp.length < 2 ^ 61) :
    bkEytzinger (inp.length + 1) inp (List.replicate inp.length default) 0 1 =
      .ok ((inp.length : Int), (Eytz.layout inp.toArray).toList) :=
  eytzinger_layout bkEytzinger (fun _ _ _ _ _ => rfl) inp hn61

theorem gen_bk1Eytzinger_eq_fill (inp : List T) (n : Nat) (hn : inp.length = n) (hn61 : n < 2 ^ 61)
    (k i : Nat) (out : Array T) (fuel : Nat) (hk : 0 < k) (hk2 : k ≤ 2 * n + 1) (hsz : out.size = n)
    (hfit : i + Eytz.size n k ≤ n) (hfuel : n + 1 - k < fuel) :
    bk1Eytzinger fuel inp out.toList (i : Int) (k : Int) =
      .ok (((Eytz.fill inp.toArray n k i out).1 : Int), (Eytz.fill inp.toArray n k i out).2.toList) :=
  eytzinger_eq_fill bk1Eytzinger (fun _ _ _ _ _ => rfl) inp n hn hn61 fuel k i out hk hk2 hsz hfit hfuel

theorem gen_bk1Eytzinger_layout {β : Type} [Inhabited β] (inp : List (Nat × β)) (hn61 : inp.length < 2 ^ 61) :
    bk1Eytzinger (inp.length + 1) inp (List.replicate inp.length default) 0 1 =
      .ok ((inp.length : Int), (Eytz.layout inp.toArray).toList) :=
  eytzinger_layout bk1Eytzinger (fun _ _ _ _ _ => rfl) inp hn61

theorem gen_ciEytzinger_eq_fill (inp : List T) (n : Nat) (hn : inp.length = n) (hn61 : n < 2 ^ 61)
    (k i : Nat) (out : Array T) (fuel : Nat) (hk : 0 < k) (hk2 : k ≤ 2 * n + 1) (hsz : out.size = n)
    (hfit : i + Eytz.size n k ≤ n) (hfuel : n + 1 - k < fuel) :
    ciEytzinger fuel inp out.toList (i : Int) (k : Int) =
      .ok (((Eytz.fill inp.toArray n k i out).1 : Int), (Eytz.fill inp.toArray n k i out).2.toList) :=
  eytzinger_eq_fill ciEytzinger (fun _ _ _ _ _ => rfl) inp n hn hn61 fuel k i out hk hk2 hsz hfit hfuel

theorem gen_ciEytzinger_layout {β : Type} [Inhabited β] (inp : List (Nat × β)) (hn61 : inp.length < 2 ^ 61) :
    ciEytzinger (inp.length + 1) inp (List.replicate inp.length default) 0 1 =
      .ok ((inp.length : Int), (Eytz.layout inp.toArray).toList) :=
  eytzinger_layout ciEytzinger (fun _ _ _ _ _ => rfl) inp hn61

theorem gen_l8Eytzinger_eq_fill (inp : List T) (n : Nat) (hn : inp.length = n) (hn61 : n < 2 ^ 61)
    (k i : Nat) (out : Array T) (fuel : Nat) (hk : 0 < k) (hk2 : k ≤ 2 * n + 1) (hsz : out.size = n)
    (hfit : i + Eytz.size n k ≤ n) (hfuel : n + 1 - k < fuel) :
    l8Eytzinger fuel inp out.toList (i : Int) (k : Int) =
      .ok (((Eytz.fill inp.toArray n k i out).1 : Int), (Eytz.fill inp.toArray n k i out).2.toList) :=
  eytzinger_eq_fill l8Eytzinger (fun _ _ _ _ _ => rfl) inp n hn hn61 fuel k i out hk hk2 hsz hfit hfuel

theorem gen_l8Eytzinger_layout {β : Type} [Inhabited β] (inp : List (Nat × β)) (hn61 : inp.length < 2 ^ 61) :
    l8Eytzinger (inp.length + 1) inp (List.replicate inp.length default) 0 1 =
      .ok ((inp.length : Int), (Eytz.layout inp.toArray).toList) :=
  eytzinger_layout l8Eytzinger (fun _ _ _ _ _ => rfl) inp hn61

theorem gen_l36Eytzinger_eq_fill (inp : List T) (n : Nat) (hn : inp.length = n) (hn61 : n < 2 ^ 61)
    (k i : Nat) (out : Array T) (fuel : Nat) (hk : 0 < k) (hk2 : k ≤ 2 * n + 1) (hsz : out.size = n)
    (hfit : i + Eytz.size n k ≤ n) (hfuel : n + 1 - k < fuel) :
    l36Eytzinger fuel inp out.toList (i : Int) (k : Int) =
      .ok (((Eytz.fill inp.toArray n k i out).1 : Int), (Eytz.fill inp.toArray n k i out).2.toList) :=
  eytzinger_eq_fill l36Eytzinger (fun _ _ _ _ _ => rfl) inp n hn hn61 fuel k i out hk hk2 hsz hfit hfuel

theorem gen_l36Eytzinger_layout {β : Type} [Inhabited β] (inp : List (Nat × β)) (hn61 : inp.length < 2 ^ 61) :
    l36Eytzinger (inp.length + 1) inp (List.replicate inp.length default) 0 1 =
      .ok ((inp.length : Int), (Eytz.layout inp.toArray).toList) :=
  eytzinger_layout l36Eytzinger (fun _ _ _ _ _ => rfl) inp hn61

/-! ### the search: the loop of `searchEytzinger(0, max, x, getter)` -/

variable {A E R : Type}

/-- the body of the loop of the Go function `searchEytzinger(min, max, x, getter)`; `rec` stands for the next iteration,
    `hash` and `val` read the key and the returned value off an entry.  (The compactindexsized copy has one more test,
    `index < min`, after the index is advanced.) -/
def searchBody (hash : E → UInt64) (val : E → R) (getter : Int → M E) (max : Int) (x : UInt64)
    (rec : Int → M (LoopRes R Int)) (index : Int) : M (LoopRes R Int) := do
  let mut index := index
  if !((decide (index < max))) then return (LoopRes.done index)
  let k ← getter index
  if ((hash k) == x) then
    return (LoopRes.ret (val k))
  index := (Go.orInt (Go.wrap64 (index * (2 : Int))) (1 : Int))
  if (decide ((hash k) < x)) then
    index := (Go.wrap64 (index + (1 : Int)))
  rec index

/-- the body on a natural index, with the Go arithmetic carried out -/
theorem searchBody_nat (hash : E → UInt64) (val : E → R) (getter : Int → M E) (max : Nat) (hmax : max < 2 ^ 62) (x : UInt64)
    (rec : Int → M (LoopRes R Int)) (n : Nat) :
    searchBody hash val getter max x rec n =
      if n < max then
        getter n >>= fun e =>
          if hash e = x then .ok (.ret (val e))
          else if hash e < x then rec ((2 * n + 2 : Nat) : Int) else rec ((2 * n + 1 : Nat) : Int)
      else .ok (.done (n : Int)) := by
  by_cases h : n < max
  · simp only [searchBody, orInt_step n (by omega), wrap64_natCast_succ (2 * n + 1) (by omega), Int.ofNat_lt, h,
      decide_true, Bool.not_true, Bool.false_eq_true, if_false, if_true, beq_iff_eq, decide_eq_true_eq, pure_eq_ok]
  · simp only [searchBody, Int.ofNat_lt, h, decide_false, Bool.not_false, if_true, if_false, pure_eq_ok]

/-- where the search ends on a table `get` of entries with keys `key`: at the entry with key `x`, outside the table at
    index `i`, or at a slot that cannot be read -/
inductive Walk (A : Type) where
  | hit (a : A)
  | miss (i : Nat)
  | fail

def walk (get : Nat → Option A) (key : A → Nat) (x max : Nat) : Nat → Nat → Walk A
  | 0, i => .miss i
  | fuel+1, i =>
    if i < max then
      match get i with
      | none => .fail
      | some a => if key a = x then .hit a else walk get key x max fuel (if key a < x then 2 * i + 2 else 2 * i + 1)
    else .miss i

theorem walk_ge (get : Nat → Option A) (key : A → Nat) (x max f n : Nat) (h : max ≤ n) :
    walk get key x max f n = .miss n := by
  cases f with
  | zero => rfl
  | succ f => rw [walk, if_neg (Nat.not_lt.mpr h)]

theorem walk_child_fuel (c : Prop) [Decidable c] {n f max : Nat} (h : max < n + (f + 1)) :
    max < (if c then 2 * n + 2 else 2 * n + 1) + f := by
  split <;> omega

/-- the walk does not depend on the fuel once the fuel exceeds what is left of the table (each step at least doubles
    the index); the fuel lemmas of the two models are its projections -/
theorem walk_fuel (get : Nat → Option A) (key : A → Nat) (x max : Nat) :
    ∀ (f1 f2 n : Nat), max < n + f1 → max < n + f2 → walk get key x max f1 n = walk get key x max f2 n := by
  intro f1
  induction f1 with
  | zero => intro f2 n h1 _; exact (walk_ge get key x max f2 n (by omega)).symm
  | succ f1 ih =>
    intro f2 n h1 h2
    by_cases hn : n < max
    · obtain ⟨f2, rfl⟩ : ∃ g, f2 = g + 1 := ⟨f2 - 1, by omega⟩
      rw [walk, walk, if_pos hn, if_pos hn]
      cases get n with
      | none => rfl
      | some a =>
        simp only []
        split
        · rfl
        · exact ih f2 _ (walk_child_fuel _ h1) (walk_child_fuel _ h2)
    · rw [walk_ge get key x max _ n (by omega), walk_ge get key x max _ n (by omega)]

/-- the loop's outcome: `hit` returns from the function, `miss` leaves the loop, `fail` is the getter's error -/
def Walk.toLoop (ret : A → R) (ioErr : Err) : Walk A → M (LoopRes R Int)
  | .hit a => .ok (.ret (ret a))
  | .miss i => .ok (.done i)
  | .fail => .error ioErr

/-- **tie**: a loop that unfolds to the body of `searchEytzinger`, run on a getter that reads the table `get` (entry `a`
    read as `mk a`; `none` = the read fails with `ioErr`), follows `walk` — for every table size below 2^62, every target
    and every start index, with any fuel above `max - n` (the Go loop terminates). -/
theorem loop_eq_walk (hash : E → UInt64) (val : E → R) (getter : Int → M E) (max : Nat) (hmax : max < 2 ^ 62) (x : UInt64)
    (loop : Nat → Int → M (LoopRes R Int))
    (hloop : ∀ fuel (n : Nat), loop (fuel + 1) n = searchBody hash val getter max x (loop fuel) n)
    (get : Nat → Option A) (key : A → Nat) (mk : A → E) (ret : A → R) (ioErr : Err)
    (hfail : ∀ i : Nat, i < max → get i = none → getter (i : Int) = .error ioErr)
    (hread : ∀ (i : Nat) a, i < max → get i = some a → getter (i : Int) = .ok (mk a))
    (hkey : ∀ i a, get i = some a → key a < 2 ^ 64)
    (hhash : ∀ a, hash (mk a) = UInt64.ofNat (key a))
    (hval : ∀ a, key a = x.toNat → val (mk a) = ret a) :
    ∀ (fuel n : Nat), max < n + fuel → 0 < fuel →
      loop fuel n = (walk get key x.toNat max fuel n).toLoop ret ioErr := by
  intro fuel
  induction fuel with
  | zero => intro n _ h0; omega
  | succ f ih =>
    intro n h _
    rw [hloop, searchBody_nat _ _ _ _ hmax, walk]
    by_cases hn : n < max
    · simp only [hn, if_true]
      cases hg : get n with
      | none => rw [hfail n hn hg]; rfl
      | some a =>
        simp only [hread n a hn hg, bind_ok, hhash, ofNat_eq_iff (hkey n a hg), ofNat_lt_iff (hkey n a hg)]
        by_cases hx : key a = x.toNat
        · simp only [hx, if_true, hval a hx, Walk.toLoop]
        · simp only [hx, if_false]
          by_cases hlt : key a < x.toNat <;> simp only [hlt, if_true, if_false] <;> exact ih _ (by omega) (by omega)
    · simp only [hn, if_false, Walk.toLoop]

end GoTies.EytzTie
