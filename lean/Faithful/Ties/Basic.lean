import Faithful.Lib.GoSem
import Faithful.Lib.Bytes
/-!
What the tie modules share: the translator's runtime (`Go.*`) on in-range arguments, by construct, and its byte-level
helpers against the ones the hand-written models use (`B.*`).
-/
namespace GoTies
open Go

/-! ### the monad -/

@[simp] theorem bind_ok {α β : Type} (a : α) (f : α → M β) : (Except.ok a : M α) >>= f = f a := id rfl
@[simp] theorem bind_error {α β : Type} (e : Err) (f : α → M β) : (Except.error e : M α) >>= f = Except.error e := id rfl
@[simp] theorem pure_eq_ok {α : Type} (a : α) : (pure a : M α) = Except.ok a := id rfl

@[simp] theorem throw_eq {α : Type} (e : Err) : (throw e : M α) = Except.error e := id rfl

/-! ### little-endian bytes -/

theorem leDecode_eq_unle (b : List UInt8) : Go.leDecode b = B.unle b := by
  induction b with
  | nil => rfl
  | cons x xs ih => simp [Go.leDecode, B.unle, ih]

theorem leEncode_eq_le (w v : Nat) : Go.leEncode w v = B.le w v := by
  induction w generalizing v with
  | zero => rfl
  | succ w ih => simp [Go.leEncode, B.le, ih]

theorem unle_lt (b : List UInt8) : B.unle b < 256 ^ b.length := by
  induction b with
  | nil => simp [B.unle]
  | cons x xs ih =>
    simp only [B.unle, List.length_cons, Nat.pow_succ]
    have := x.toNat_lt
    have h8 : x.toNat < 256 := by simpa using this
    omega

theorem unle_append_zeros (b : List UInt8) (k : Nat) : B.unle (b ++ List.replicate k 0) = B.unle b := by
  induction b with
  | nil =>
    induction k with
    | zero => rfl
    | succ k ih => simp [List.replicate_succ, B.unle] at ih ⊢; omega
  | cons x xs ih => simp [B.unle, ih]

theorem unle_take_lt (b : List UInt8) (w : Nat) : B.unle (b.take w) < 256 ^ w :=
  Nat.lt_of_lt_of_le (unle_lt _) (Nat.pow_le_pow_right (by decide) (List.length_take_le w b))

theorem unle8_lt (b : List UInt8) : B.unle (b.take 8) < 2 ^ 64 := unle_take_lt b 8
theorem unle4_lt (b : List UInt8) : B.unle (b.take 4) < 2 ^ 32 := unle_take_lt b 4

theorem leU32_of_le (b : List UInt8) (h : 4 ≤ b.length) : leU32 b = .ok (UInt32.ofNat (B.unle (b.take 4))) := by
  rw [leU32, if_pos h, leDecode_eq_unle]; rfl

theorem leU64_of_le (b : List UInt8) (h : 8 ≤ b.length) : leU64 b = .ok (UInt64.ofNat (B.unle (b.take 8))) := by
  rw [leU64, if_pos h, leDecode_eq_unle]; rfl

theorem leU32_eq (b : List UInt8) (h : b.length = 4) : leU32 b = .ok (UInt32.ofNat (B.unle b)) := by
  rw [leU32_of_le b (by omega), List.take_of_length_le (by omega)]

theorem leU64_eq (b : List UInt8) (h : b.length = 8) : leU64 b = .ok (UInt64.ofNat (B.unle b)) := by
  rw [leU64_of_le b (by omega), List.take_of_length_le (by omega)]

/-! ### integers: `int` on naturals in range, the unsigned types -/

theorem wrap64_natCast (n : Nat) (h : n < 2 ^ 63) : wrap64 (n : Int) = n := wrap64_id (by omega) (by omega)

theorem wrap64_natCast_add (a b : Nat) (h : a + b < 2 ^ 63) : wrap64 ((a : Int) + (b : Int)) = ((a + b : Nat) : Int) := by
  rw [← Int.natCast_add]; exact wrap64_natCast _ h

theorem wrap64_natCast_succ (a : Nat) (h : a + 1 < 2 ^ 63) : wrap64 ((a : Int) + 1) = ((a + 1 : Nat) : Int) :=
  wrap64_natCast_add a 1 h

theorem wrap64_natCast_sub (a b : Nat) (hb : b ≤ a) (h : a < 2 ^ 63) : wrap64 ((a : Int) - (b : Int)) = ((a - b : Nat) : Int) := by
  rw [← Int.natCast_sub hb]; exact wrap64_natCast _ (by omega)

theorem wrap64_sub_one (k : Nat) (hk : 0 < k) (h : k < 2 ^ 63) : wrap64 ((k : Int) - 1) = ((k - 1 : Nat) : Int) :=
  wrap64_natCast_sub k 1 hk h

theorem wrap64_natCast_mul (a b : Nat) (h : a * b < 2 ^ 63) : wrap64 ((a : Int) * (b : Int)) = ((a * b : Nat) : Int) := by
  rw [← Int.natCast_mul]; exact wrap64_natCast _ h

theorem wrap64_two_mul (k : Nat) (h : k < 2 ^ 62) : wrap64 (2 * (k : Int)) = ((2 * k : Nat) : Int) :=
  wrap64_natCast_mul 2 k (by omega)

/-- `index<<1 | 1` -/
theorem orInt_step (n : Nat) (h : n < 2 ^ 62) : orInt (wrap64 ((n : Int) * 2)) 1 = ((2 * n + 1 : Nat) : Int) := by
  have h1 : wrap64 ((n : Int) * 2) = 2 * (n : Int) := by
    rw [wrap64_id] <;> omega
  rw [h1, orInt_double_one _ (by omega)]
  omega

theorem u8OfInt_natCast (n : Nat) (h : n ≤ 255) : u8OfInt (n : Int) = UInt8.ofNat n := by
  rw [u8OfInt, Int.emod_eq_of_lt (by omega) (by omega), Int.toNat_natCast]

theorem u32_toNat (n : Nat) (h : n < 4294967296) : (UInt32.ofNat n).toNat = n := by
  rw [UInt32.toNat_ofNat']; exact Nat.mod_eq_of_lt h

theorem u64_toNat (n : Nat) (h : n < 18446744073709551616) : (UInt64.ofNat n).toNat = n := by
  rw [UInt64.toNat_ofNat']; exact Nat.mod_eq_of_lt h

theorem u32_lt_iff (a b : Nat) (ha : a < 4294967296) (hb : b < 4294967296) : UInt32.ofNat a < UInt32.ofNat b ↔ a < b := by
  rw [UInt32.lt_iff_toNat_lt, u32_toNat a ha, u32_toNat b hb]

theorem u32_beq_zero (n : Nat) (h : n < 4294967296) : (UInt32.ofNat n == 0) = true ↔ n = 0 := by
  rw [beq_iff_eq, ← UInt32.toNat_inj, u32_toNat n h]; rfl

theorem u64_beq_zero (n : Nat) (h : n < 18446744073709551616) : (UInt64.ofNat n == 0) = true ↔ n = 0 := by
  rw [beq_iff_eq, ← UInt64.toNat_inj, u64_toNat n h]; rfl

variable {α : Type}

/-! ### lists, indexing, slices, `make` -/

theorem len_replicate (n : Nat) (z : α) : len (List.replicate n z) = (n : Int) := by
  unfold len; rw [List.length_replicate]

theorem len_lt_iff (b : List α) (n : Nat) : len b < (n : Int) ↔ b.length < n := Int.ofNat_lt

/-- `uint64(len(b))` -/
theorem u64OfInt_len (b : List α) (h : b.length < 2 ^ 63) : (u64OfInt (len b)).toNat = b.length := by
  unfold u64OfInt len
  rw [UInt64.toNat_ofNat', Int.emod_eq_of_lt (by omega) (by omega), Int.toNat_natCast]
  exact Nat.mod_eq_of_lt (by omega)

theorem idx_natCast [Inhabited α] (b : List α) (i : Nat) (h : i < b.length) : idx b (i : Int) = .ok (b.getD i default) := by
  rw [idx, if_pos (by omega)]; rfl

theorem idx_getElem [Inhabited α] (b : List α) (i : Nat) (h : i < b.length) : idx b (i : Int) = .ok b[i] := by
  rw [idx_natCast b i h, List.getD_eq_getElem?_getD, List.getElem?_eq_getElem h]; rfl

theorem setIdx_natCast (b : List α) (i : Nat) (v : α) (h : i < b.length) : setIdx b (i : Int) v = .ok (b.set i v) := by
  rw [setIdx, if_pos (by omega)]; rfl

theorem slice_natCast (b : List α) (lo hi : Nat) (h1 : lo ≤ hi) (h2 : hi ≤ b.length) :
    slice b (lo : Int) (hi : Int) = .ok ((b.drop lo).take (hi - lo)) := by
  rw [slice, if_pos (by omega)]; rfl

/-- `b[lo:]` -/
theorem slice_to_end (b : List α) (lo : Nat) (h : lo ≤ b.length) : slice b (lo : Int) (len b) = .ok (b.drop lo) := by
  rw [len, slice_natCast b lo b.length h (Nat.le_refl _), List.take_of_length_le (by rw [List.length_drop]; omega)]

/-- `b[:n]` -/
theorem slice_upto (b : List α) (n : Nat) (h : n ≤ b.length) : slice b 0 (n : Int) = .ok (b.take n) :=
  slice_natCast b 0 n (Nat.zero_le n) h

theorem length_take_drop (b : List α) (lo n : Nat) (h : lo + n ≤ b.length) : ((b.drop lo).take n).length = n := by
  rw [List.length_take, List.length_drop]; omega

theorem makeOf_natCast (z : α) (n : Nat) (h : n < 2 ^ 48) : makeOf z (n : Int) = .ok (List.replicate n z) := by
  rw [makeOf, if_pos (by omega)]; rfl

/-- `buf = append(read, buf[len(read):]...)` after a `ReadAt` into a fresh `n`-byte buffer that came back full / short -/
theorem pad_full (t : List α) (n : Nat) (z : α) (h : t.length = n) : t ++ (List.replicate n z).drop t.length = t := by
  rw [h, List.drop_replicate, Nat.sub_self]; exact List.append_nil t

theorem pad_length (t : List α) (n : Nat) (z : α) (h : t.length ≤ n) :
    (t ++ (List.replicate n z).drop t.length).length = n := by
  rw [List.length_append, List.length_drop, List.length_replicate]; omega

theorem setSlice_length (b v : List α) {lo : Nat} (h : lo + v.length ≤ b.length) : (setSlice b lo v).length = b.length := by
  rw [setSlice, Int.toNat_natCast, List.length_append, List.length_append, List.length_take, List.length_drop, Nat.min_eq_left (by omega)]
  omega

theorem setSlice_take (b v w : List α) {lo : Nat} (h : lo ≤ b.length) : (setSlice b lo (v ++ w)).take (lo + v.length) = b.take lo ++ v := by
  have h1 : (b.take lo).length = lo := by rw [List.length_take, Nat.min_eq_left h]
  rw [setSlice, Int.toNat_natCast, List.append_assoc, List.take_append, h1, List.take_of_length_le (by omega), Nat.add_sub_cancel_left,
    List.append_assoc, List.take_append_of_le_length (Nat.le_refl _), List.take_length]

theorem getD_of_drop_eq_cons {l : List α} {i : Nat} {x : α} {xs : List α} (h : l.drop i = x :: xs) (d : α) : l.getD i d = x := by
  rw [List.getD_eq_getElem?_getD, ← Nat.add_zero i, ← List.getElem?_drop, h]; rfl

theorem drop_succ_of_drop_eq_cons {l : List α} {i : Nat} {x : α} {xs : List α} (h : l.drop i = x :: xs) : l.drop (i + 1) = xs := by
  rw [← List.tail_drop, h]; rfl

/-! ### `io.ReadFull` on a `bytes.Reader` -/

/-- fewer than `n` bytes left: `io.EOF` or `io.ErrUnexpectedEOF` -/
theorem readFull_gen (d : List UInt8) (p n : Nat) :
    (d.drop p).length < n → ∃ t, readFull ⟨d, p⟩ (n : Int) = .error (.err t) := by
  intro h
  unfold readFull
  have hn : ¬ n = 0 := by omega
  simp only [Int.toNat_natCast, hn, if_false]
  by_cases h1 : d.length ≤ p
  · simp only [h1, if_true]; exact ⟨_, rfl⟩
  · have : d.length - p < n := by simp at h; omega
    simp only [h1, if_false, this, if_true]; exact ⟨_, rfl⟩

theorem readFull_ok (d : List UInt8) (p n : Nat) (h : ¬ (d.drop p).length < n) :
    readFull ⟨d, p⟩ (n : Int) = .ok (⟨d, p + n⟩, (d.drop p).take n) := by
  unfold readFull
  by_cases hn : n = 0
  · subst hn; simp
  · have h1 : ¬ d.length ≤ p := by simp at h; omega
    have h2 : ¬ d.length - p < n := by simp at h; omega
    simp [hn, h1, h2]

end GoTies

namespace GoTies.BkHas

/-- `ReadAt` of an in-memory reader over `c` -/
def memRd (c : List UInt8) : Go.ReaderAt := fun n off =>
  if off < 0 then ([], Go.Error.other "negative offset")
  else if off.toNat ≥ c.length then ([], Go.Error.eof)
  else ((c.drop off.toNat).take n.toNat, if c.length - off.toNat < n.toNat then Go.Error.eof else Go.Error.nil)

end GoTies.BkHas

namespace GoTies
open Go GoTies.BkHas

/-! ### the in-memory `io.ReaderAt` and `io.SectionReader` over it -/

theorem memRd_nat (c : List UInt8) (n : Int) (k : Nat) :
    memRd c n (k : Int) = if k ≥ c.length then ([], Go.Error.eof)
      else ((c.drop k).take n.toNat, if c.length - k < n.toNat then Go.Error.eof else Go.Error.nil) := by
  unfold memRd
  rw [if_neg (by omega), Int.toNat_natCast]

theorem memRd_width (c : List UInt8) (w k : Nat) (hw : 0 < w) :
    memRd c (w : Int) (k : Int) = if k + w ≤ c.length then ((c.drop k).take w, Go.Error.nil)
      else (if k ≥ c.length then [] else (c.drop k).take w, Go.Error.eof) := by
  rw [memRd_nat, Int.toNat_natCast]
  by_cases h1 : k ≥ c.length
  · rw [if_pos h1, if_neg (by omega), if_pos h1]
  · rw [if_neg h1, if_neg h1]
    by_cases h2 : k + w ≤ c.length
    · rw [if_pos h2, if_neg (by omega)]
    · rw [if_neg h2, if_pos (by omega)]

theorem memRd_ok (c : List UInt8) (n k : Nat) (h : k + n ≤ c.length) (hn : 0 < n) :
    memRd c (n : Int) (k : Int) = ((c.drop k).take n, Go.Error.nil) := by
  rw [memRd_width c n k hn, if_pos h]

theorem memRd_short (c : List UInt8) (n k : Nat) (h : ¬ (k + n ≤ c.length)) (hn : 0 < n) :
    (memRd c (n : Int) (k : Int)).2 = Go.Error.eof ∧ (memRd c (n : Int) (k : Int)).1.length < n := by
  rw [memRd_width c n k hn, if_neg h]
  refine ⟨rfl, ?_⟩
  by_cases h1 : k ≥ c.length
  · rw [if_pos h1]; exact hn
  · rw [if_neg h1, List.length_take, List.length_drop]; omega

theorem memRd_len_le (c : List UInt8) (n k : Nat) : (memRd c (n : Int) (k : Int)).1.length ≤ n := by
  rw [memRd_nat]
  split
  · exact Nat.zero_le n
  · exact List.length_take_le ..

theorem memRd_neg (c : List UInt8) (n o : Int) (ho : o < 0) : (memRd c n o).2 ≠ Go.Error.nil := by
  unfold memRd
  rw [if_pos ho]
  intro h; cases h

theorem memRd_err (c : List UInt8) (n : Int) (k : Nat) : (memRd c n (k : Int)).2 = Go.Error.nil ∨ (memRd c n (k : Int)).2 = Go.Error.eof := by
  rw [memRd_nat]
  split
  · right; rfl
  · split
    · right; rfl
    · left; rfl

-- offset `0` as the literal the translated code has; `memRd_ok c n 0` has the cast `((0 : Nat) : Int)`

theorem memRd0_ok (c : List UInt8) (n : Nat) (h : n ≤ c.length) (hn : 0 < n) :
    memRd c (n : Int) 0 = (c.take n, Go.Error.nil) :=
  memRd_ok c n 0 (by omega) hn

theorem memRd0_eof (c : List UInt8) (n : Nat) (h : c.length < n) : (memRd c (n : Int) 0).2 = Go.Error.eof :=
  (memRd_short c n 0 (by omega) (by omega)).1

theorem memRd0_short_iff (c : List UInt8) (n : Nat) (hn : 0 < n) : len (memRd c (n : Int) 0).1 < (n : Int) ↔ c.length < n := by
  rw [len_lt_iff]
  by_cases h : n ≤ c.length
  · rw [memRd0_ok c n h hn, List.length_take]; omega
  · have := (memRd_short c n 0 (by omega) hn).2
    exact ⟨fun _ => by omega, fun _ => this⟩

theorem section_in (c : List UInt8) (base n k off : Nat) (hb : base + n < 2 ^ 62) (hk : off + k ≤ n) (hk0 : 0 < k) :
    sectionReader (memRd c) (base : Int) (n : Int) (k : Int) (off : Int) = memRd c (k : Int) ((base + off : Nat) : Int) := by
  unfold sectionReader
  have hlim : ((base : Int) ≤ 9223372036854775807 - (n : Int)) := by omega
  simp only [hlim, if_true]
  have h1 : ¬ (((off : Int) < 0) ∨ ((off : Int) ≥ (base : Int) + (n : Int) - (base : Int))) := by omega
  have h2 : ¬ ((k : Int) > (base : Int) + (n : Int) - ((off : Int) + (base : Int))) := by omega
  simp only [h1, if_false, h2]
  congr 1
  omega

theorem section_err0 (c : List UInt8) (base n : Nat) (len : Int) (hb : base + n < 2 ^ 62) :
    (sectionReader (memRd c) (base : Int) (n : Int) len 0).2 = Go.Error.nil ∨
    (sectionReader (memRd c) (base : Int) (n : Int) len 0).2 = Go.Error.eof := by
  unfold sectionReader
  have hlim : ((base : Int) ≤ 9223372036854775807 - (n : Int)) := by omega
  simp only [hlim, if_true]
  by_cases h1 : ((0 : Int) < 0) ∨ ((0 : Int) ≥ (base : Int) + (n : Int) - (base : Int))
  · rw [if_pos h1]; right; rfl
  · rw [if_neg h1]
    have e0 : (0 : Int) + (base : Int) = ((base : Nat) : Int) := by omega
    rw [e0]
    by_cases h2 : len > (base : Int) + (n : Int) - ((base : Nat) : Int)
    · rw [if_pos h2]
      rcases memRd_err c ((base : Int) + (n : Int) - ((base : Nat) : Int)) base with h3 | h3
      · right; simp only [h3]; rfl
      · right; simp only [h3]; rfl
    · rw [if_neg h2]
      exact memRd_err c len base

/-! ### errors as data: `catchErr` and the `if err != nil` test -/

theorem guard_ok {α β : Type} (x : M α) (v d : α) (hx : x = .ok v) (E k : α × Go.Error → M β) :
    (catchErr x d >>= fun t => if (t.2 != Go.Error.nil) = true then E t else k t) = k (v, Go.Error.nil) := by
  subst hx; rfl

theorem guard_err {α β : Type} (x : M α) (d : α) (s : String) (hx : x = .error (.err s)) (E k : α × Go.Error → M β) :
    (catchErr x d >>= fun t => if (t.2 != Go.Error.nil) = true then E t else k t) = E (d, Go.Error.other s) := by
  subst hx; rfl

/-! ### a specification `Option α` against a computed result, step by step -/

/-- a Go error, as opposed to a panic or a hang -/
def IsErr {β : Type} (r : M β) : Prop := ∃ t, r = .error (.err t)

theorem IsErr.err {β : Type} (t : String) : IsErr (.error (.err t) : M β) := ⟨t, rfl⟩

/-- `r` is `ok a` when the specification answers `some a`, and is `bad` when it answers `none` -/
def Realizes {α ρ : Type} (bad : ρ → Prop) (ok : α → ρ) (s : Option α) (r : ρ) : Prop :=
  (∀ a, s = some a → r = ok a) ∧ (s = none → bad r)

theorem Realizes.none {α ρ : Type} {bad : ρ → Prop} {ok : α → ρ} {r : ρ} (h : bad r) : Realizes bad ok none r :=
  ⟨fun _ e => (nomatch e), fun _ => h⟩

theorem Realizes.some {α ρ : Type} {bad : ρ → Prop} {ok : α → ρ} (a : α) : Realizes bad ok (some a) (ok a) :=
  ⟨fun _ e => by cases e; rfl, fun e => (nomatch e)⟩

theorem Realizes.ite {α ρ : Type} {bad : ρ → Prop} {ok : α → ρ} {c : Prop} [Decidable c] {b : Bool} (hb : b = true ↔ c)
    {u v : ρ} {X : Option α} (h1 : c → bad u) (h2 : ¬ c → Realizes bad ok X v) :
    Realizes bad ok (if c then Option.none else X) (if b = true then u else v) := by
  by_cases hc : c
  · rw [if_pos hc, if_pos (hb.mpr hc)]; exact .none (h1 hc)
  · rw [if_neg hc, if_neg (mt hb.mp hc)]; exact h2 hc

theorem realizes_bind_ok {α β ρ : Type} {bad : M ρ → Prop} {ok : α → M ρ} {s : Option α} {x : M β} {v : β} {k : β → M ρ}
    (hx : x = .ok v) (h : Realizes bad ok s (k v)) : Realizes bad ok s (x >>= k) := by
  rw [hx]; exact h

theorem realizes_of_eq {α ρ : Type} {bad : ρ → Prop} {ok : α → ρ} {a : α} {r : ρ} (h : r = ok a) : Realizes bad ok (some a) r :=
  h ▸ .some a

theorem ite_eq_ite {ρ : Type} {c : Prop} [Decidable c] {b : Bool} (hb : b = true ↔ c) {u v x y : ρ}
    (h1 : u = x) (h2 : ¬ c → v = y) : (if b = true then u else v) = (if c then x else y) := by
  by_cases hc : c
  · rw [if_pos hc, if_pos (hb.mpr hc)]; exact h1
  · rw [if_neg hc, if_neg (mt hb.mp hc)]; exact h2 hc

theorem ite_rel {α β : Type} {R : α → β → Prop} {c : Prop} [Decidable c] {a b : α} {x y : β} (h1 : c → R a x) (h2 : ¬ c → R b y) :
    R (if c then a else b) (if c then x else y) := by
  by_cases hc : c
  · rw [if_pos hc, if_pos hc]; exact h1 hc
  · rw [if_neg hc, if_neg hc]; exact h2 hc

theorem ite_none_eq_some {α : Type} {c : Prop} [Decidable c] {x : Option α} {a : α}
    (h : (if c then Option.none else x) = Option.some a) : ¬ c ∧ x = Option.some a := by
  by_cases hc : c
  · rw [if_pos hc] at h; cases h
  · rw [if_neg hc] at h; exact ⟨hc, h⟩

end GoTies
