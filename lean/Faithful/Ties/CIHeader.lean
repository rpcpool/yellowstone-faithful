import Faithful.Generated.GoFns
import Faithful.Lib.IndexMeta
import Faithful.Lib.CompactIndex
import Faithful.Lib.CompactIndexBytes
import Faithful.Ties.Basic
import Faithful.Ties.C10
/-!
Direct theorem on the translated `compactindexsized.Header.Load` (regenerated from /repo's working tree on every run):
for EVERY byte string and every prior content of the receiver, `Load` either returns an error or fills the header with
exactly the fields `loadSpec` reads — it never panics — and `loadSpec` is the format the model `CI.headerBytes` writes.

Not modelled: the content of `*h` after a failed `Load` (the translation's monad drops the receiver on error; the callers
`Open` / `OpenWithMeta…` discard the DB on error).
-/
namespace GoTies.CIHeader
open Go Generated.G GoTies GoTies.C10

/-- the header format as `Header.Load` reads it: magic, length of the rest (13 … 130574, inside the buffer),
    value size, number of buckets, version 1, metadata; zero value size / bucket count rejected -/
def loadSpec (buf : List UInt8) : Option (Nat × Nat × IndexMeta.KVs) :=
  if buf.length < 12 then none
  else if buf.take 8 ≠ CI.magic then none
  else
    let l := B.unle ((buf.drop 8).take 4)
    if l < 13 ∨ l > 130574 then none
    else if l + 12 > buf.length then none
    else if buf.getD 24 0 ≠ 1 then none
    else match IndexMeta.decode (buf.drop 25) with
      | none => none
      | some m =>
        if B.unle ((buf.drop 12).take 8) = 0 then none
        else if B.unle ((buf.drop 20).take 4) = 0 then none
        else some (B.unle ((buf.drop 12).take 8), B.unle ((buf.drop 20).take 4), m)

/-- `if c { return err }` followed by `k`, exactly as the do-notation of the translation elaborates it -/
def guard {α : Type} (c : Bool) (e : String) (k : Unit → M α) : M α :=
  if c = true then (throw (Err.err e) >>= k) else k ()

theorem guard_eq {α : Type} (c : Bool) (e : String) (k : Unit → M α) :
    guard c e k = if c = true then .error (.err e) else k () := by
  unfold guard; cases c <;> rfl

/-- the translated `Header.Load`, restated with `guard` (tied to the translation by `rfl` below) -/
def loadM (fuel : Nat) (buf : List UInt8) : M Compactindexsized_Header :=
  guard (decide (Go.len buf < 12)) "invalid header length" fun _ =>
  Go.slice buf 0 8 >>= fun t1 =>
  guard (t1 != [99, 111, 109, 112, 105, 115, 122, 100]) "not a radiance compactindex file" fun _ =>
  Go.slice buf 8 12 >>= fun t3 =>
  Go.leU32 t3 >>= fun t2 =>
  guard (decide (t2 < 13) || decide (t2 > 130574)) "invalid header length" fun _ =>
  guard (decide (t2.toUInt64 + 8 + 4 > Go.u64OfInt (Go.len buf))) "invalid header length" fun _ =>
  Go.slice buf 12 20 >>= fun t5 =>
  Go.leU64 t5 >>= fun t4 =>
  Go.slice buf 20 24 >>= fun t7 =>
  Go.leU32 t7 >>= fun t6 =>
  Go.idx buf 24 >>= fun t8 =>
  guard (t8 != 1) "unsupported index version: want %d, got %d" fun _ =>
  Go.slice buf 25 (Go.len buf) >>= fun t9 =>
  metaUnmarshal fuel Indexmeta_Meta.zero t9 >>= fun t10 =>
  guard (t4 == 0) "value size not set" fun _ =>
  guard (t6 == 0) "number of buckets not set" fun _ =>
  pure { ValueSize := t4, NumBuckets := t6, Metadata := t10 }

theorem load_unfold (fuel : Nat) (h : Compactindexsized_Header) (buf : List UInt8) :
    ciHeaderLoad fuel h buf = loadM fuel buf := by
  unfold ciHeaderLoad loadM guard
  rfl

theorem realizes_guard {α β : Type} {ok : α → M β} {c : Prop} [Decidable c] {b : Bool} (hb : b = true ↔ c) {e : String}
    {k : Unit → M β} {X : Option α} (h : ¬ c → Realizes IsErr ok X (k ())) :
    Realizes IsErr ok (if c then none else X) (guard b e k) := by
  rw [guard_eq]; exact .ite hb (fun _ => .err e) h

def hdrOfSpec (r : Nat × Nat × IndexMeta.KVs) : M Compactindexsized_Header :=
  .ok { ValueSize := UInt64.ofNat r.1, NumBuckets := UInt32.ofNat r.2.1, Metadata := ofKvs r.2.2 }

/-- `buf.length < 2^63`: Go's `int` -/
theorem loadM_realizes (buf : List UInt8) (fuel : Nat) (hf : 256 < fuel) (hlen : buf.length < 2 ^ 63) :
    Realizes IsErr hdrOfSpec (loadSpec buf) (loadM fuel buf) := by
  unfold loadSpec loadM
  refine realizes_guard (decide_eq_true_iff.trans (len_lt_iff buf 12)) fun h12 => ?_
  have h12 : 12 ≤ buf.length := Nat.le_of_not_lt h12
  rw [(show Go.slice buf 0 8 = .ok (buf.take 8) from slice_natCast buf 0 8 (by decide) (Nat.le_trans (by decide) h12)), bind_ok]
  refine realizes_guard bne_iff_ne fun _ => ?_
  rw [(show Go.slice buf 8 12 = .ok ((buf.drop 8).take 4) from slice_natCast buf 8 12 (by decide) h12), bind_ok,
    leU32_eq _ (length_take_drop buf 8 4 h12), bind_ok]
  have hl := unle_take_lt (buf.drop 8) 4
  generalize B.unle ((buf.drop 8).take 4) = l at hl ⊢
  refine realizes_guard (by rw [Bool.or_eq_true, decide_eq_true_iff, decide_eq_true_iff]
                            exact or_congr (u32_lt_iff l 13 hl (by decide)) (u32_lt_iff 130574 l (by decide) hl)) fun hr => ?_
  have hfits : (UInt32.ofNat l).toUInt64 + 8 + 4 > Go.u64OfInt (Go.len buf) ↔ l + 12 > buf.length := by
    rw [gt_iff_lt, UInt64.lt_iff_toNat_lt, u64OfInt_len buf hlen, UInt64.toNat_add, UInt64.toNat_add, UInt32.toNat_toUInt64,
      u32_toNat l hl]
    rw [show (8 : UInt64).toNat = 8 from rfl, show (4 : UInt64).toNat = 4 from rfl]
    omega
  refine realizes_guard (decide_eq_true_iff.trans hfits) fun hc => ?_
  have h25 : 25 ≤ buf.length := by omega
  rw [(show Go.slice buf 12 20 = .ok ((buf.drop 12).take 8) from slice_natCast buf 12 20 (by decide) (Nat.le_trans (by decide) h25)), bind_ok,
    leU64_eq _ (length_take_drop buf 12 8 (Nat.le_trans (by decide) h25)), bind_ok,
    (show Go.slice buf 20 24 = .ok ((buf.drop 20).take 4) from slice_natCast buf 20 24 (by decide) (Nat.le_trans (by decide) h25)), bind_ok,
    leU32_eq _ (length_take_drop buf 20 4 (Nat.le_trans (by decide) h25)), bind_ok,
    (show Go.idx buf 24 = _ from idx_natCast buf 24 h25), bind_ok]
  have hvs := unle_take_lt (buf.drop 12) 8
  have hnb := unle_take_lt (buf.drop 20) 4
  generalize B.unle ((buf.drop 12).take 8) = vs at hvs ⊢
  generalize B.unle ((buf.drop 20).take 4) = nb at hnb ⊢
  refine realizes_guard bne_iff_ne fun _ => ?_
  rw [(show Go.slice buf 25 _ = _ from slice_to_end buf 25 h25), bind_ok]
  have hmeta := gen_metaUnmarshal_eq_model (buf.drop 25) fuel hf
  cases hd : IndexMeta.decode (buf.drop 25) with
  | none =>
    rw [hd] at hmeta
    obtain ⟨t, ht⟩ := hmeta
    rw [ht]
    exact .none ⟨t, rfl⟩
  | some m =>
    rw [hd] at hmeta
    rw [hmeta, bind_ok]
    refine realizes_guard (u64_beq_zero vs hvs) fun _ => ?_
    refine realizes_guard (u32_beq_zero nb hnb) fun _ => ?_
    exact .some (vs, nb, m)

-- a theorem of its own, though a reading of `loadM_realizes`: its `match` is the matcher (`loadM_eq_spec.match_1`) in the statement of `gen_ciHeaderLoad_eq_spec`
theorem loadM_eq_spec (buf : List UInt8) (fuel : Nat) (hf : 256 < fuel) (hlen : buf.length < 2 ^ 63) :
    match loadSpec buf with
    | some (vs, nb, m) => loadM fuel buf =
        .ok { ValueSize := UInt64.ofNat vs, NumBuckets := UInt32.ofNat nb, Metadata := ofKvs m }
    | none => ∃ t, loadM fuel buf = .error (.err t) := by
  have h := loadM_realizes buf fuel hf hlen
  cases hs : loadSpec buf with
  | none => exact h.2 hs
  | some r => exact h.1 r hs

/-- **direct theorem on the translated code**: `Header.Load(buf)` = `loadSpec buf`, for every byte string (of a length a
    Go slice can have), every prior receiver content and every fuel above the 255 pairs the count byte can announce;
    in particular `Load` never panics -/
theorem gen_ciHeaderLoad_eq_spec (h : Compactindexsized_Header) (buf : List UInt8) (fuel : Nat) (hf : 256 < fuel)
    (hlen : buf.length < 2 ^ 63) :
    match loadSpec buf with
    | some (vs, nb, m) => ciHeaderLoad fuel h buf =
        .ok { ValueSize := UInt64.ofNat vs, NumBuckets := UInt32.ofNat nb, Metadata := ofKvs m }
    | none => ∃ t, ciHeaderLoad fuel h buf = .error (.err t) := by
  rw [load_unfold]; exact loadM_eq_spec buf fuel hf hlen

theorem gen_ciHeaderLoad_never_panics (h : Compactindexsized_Header) (buf : List UInt8) (fuel : Nat) (hf : 256 < fuel)
    (hlen : buf.length < 2 ^ 63) : ∀ w, ciHeaderLoad fuel h buf ≠ .error (.panic w) := by
  intro w hw
  have := gen_ciHeaderLoad_eq_spec h buf fuel hf hlen
  cases hs : loadSpec buf with
  | none => rw [hs] at this; obtain ⟨t, ht⟩ := this; rw [ht] at hw; cases hw
  | some r => obtain ⟨vs, nb, m⟩ := r; rw [hs] at this; simp only at this; rw [this] at hw; cases hw

theorem gen_ciHeaderLoad_receiver_irrelevant (h h' : Compactindexsized_Header) (buf : List UInt8) (fuel : Nat) :
    ciHeaderLoad fuel h buf = ciHeaderLoad fuel h' buf := by rw [load_unfold, load_unfold]

theorem layout_fields (L V N R : List UInt8) (ver : UInt8) (hL : L.length = 4) (hV : V.length = 8) (hN : N.length = 4)
    (buf : List UInt8) (hb : buf = CI.magic ++ (L ++ (V ++ (N ++ ver :: R)))) :
    buf.take 8 = CI.magic ∧ (buf.drop 8).take 4 = L ∧ (buf.drop 12).take 8 = V ∧ (buf.drop 20).take 4 = N ∧
    buf.getD 24 0 = ver ∧ buf.drop 25 = R := by
  subst hb
  have h8 : CI.magic.length = 8 := rfl
  have h12 : (CI.magic ++ L).length = 12 := by rw [List.length_append, h8, hL]
  have h20 : (CI.magic ++ L ++ V).length = 20 := by rw [List.length_append, h12, hV]
  have h24 : (CI.magic ++ L ++ V ++ N).length = 24 := by rw [List.length_append, h20, hN]
  have d24 : (CI.magic ++ (L ++ (V ++ (N ++ ver :: R)))).drop 24 = ver :: R := by
    rw [← List.append_assoc, ← List.append_assoc, ← List.append_assoc, List.drop_left' h24]
  refine ⟨List.take_left' h8, ?_, ?_, ?_, ?_, ?_⟩
  · rw [List.drop_left' h8, List.take_left' hL]
  · rw [← List.append_assoc, List.drop_left' h12, List.take_left' hV]
  · rw [← List.append_assoc, ← List.append_assoc, List.drop_left' h20, List.take_left' hN]
  · rw [List.getD, ← List.head?_drop, d24]; rfl
  · rw [show 25 = 24 + 1 from rfl, ← List.drop_drop, d24]; rfl

theorem headerBytes_layout (vs nb : Nat) (m : IndexMeta.KVs) :
    CI.headerBytes vs nb m
      = CI.magic ++ (B.le 4 (13 + (CI.metaBytes m).length) ++ (B.le 8 vs ++ (B.le 4 nb ++ (1 :: CI.metaBytes m)))) := by
  unfold CI.headerBytes
  simp only [List.length_append, B.le_length, List.length_cons, List.append_assoc, List.cons_append, List.nil_append]
  congr 3
  omega

/-- **the format `Load` reads is the format the builder writes**: on the header bytes of the model's encoder
    (`CI.headerBytes`, compared byte for byte with the real builder's files on every run) `loadSpec` returns the fields -/
theorem loadSpec_headerBytes (vs nb : Nat) (m : IndexMeta.KVs) (hvs : 0 < vs) (hvs2 : vs < 2 ^ 64) (hnb : 0 < nb)
    (hnb2 : nb < 2 ^ 32) (hml : m.length ≤ 255) (hm : ∀ kv ∈ m, kv.1.length ≤ 255 ∧ kv.2.length ≤ 255) :
    loadSpec (CI.headerBytes vs nb m) = some (vs, nb, m) := by
  have hmb := CI.metaBytes_length_le m hm
  have hlen := CI.headerBytes_length vs nb m
  have hdec : IndexMeta.decode (CI.metaBytes m) = some m := CI.parseMeta_enc m hml hm
  obtain ⟨t8, f4, f8, f4b, g24, d25⟩ := layout_fields _ _ _ _ 1 (B.le_length ..) (B.le_length ..) (B.le_length ..) _
    (headerBytes_layout vs nb m)
  unfold loadSpec
  rw [hlen]
  rw [t8, f4, f8, f4b, g24, d25, hdec, B.unle_le_of_lt 4 _ (by rw [CI.pow4]; omega), B.unle_le_of_lt 8 vs (by rw [CI.pow8]; exact hvs2),
    B.unle_le_of_lt 4 nb (by rw [CI.pow4]; exact hnb2)]
  rw [if_neg (by omega), if_neg (fun h => h rfl), if_neg (by omega), if_neg (by omega), if_neg (fun h => h rfl)]
  show (if vs = 0 then none else if nb = 0 then none else some (vs, nb, m)) = _
  rw [if_neg (by omega), if_neg (by omega)]

/-- hence the translated `Load` reads back exactly what the encoder wrote -/
theorem gen_ciHeaderLoad_headerBytes (h : Compactindexsized_Header) (fuel : Nat) (hf : 256 < fuel)
    (vs nb : Nat) (m : IndexMeta.KVs) (hvs : 0 < vs) (hvs2 : vs < 2 ^ 64) (hnb : 0 < nb)
    (hnb2 : nb < 2 ^ 32) (hml : m.length ≤ 255) (hm : ∀ kv ∈ m, kv.1.length ≤ 255 ∧ kv.2.length ≤ 255) :
    ciHeaderLoad fuel h (CI.headerBytes vs nb m)
      = .ok { ValueSize := UInt64.ofNat vs, NumBuckets := UInt32.ofNat nb, Metadata := ofKvs m } := by
  have hmb := CI.metaBytes_length_le m hm
  have hlen : (CI.headerBytes vs nb m).length < 2 ^ 63 := by rw [CI.headerBytes_length]; omega
  rw [load_unfold]
  exact (loadM_realizes _ fuel hf hlen).1 _ (loadSpec_headerBytes vs nb m hvs hvs2 hnb hnb2 hml hm)

/-! examples: the spec and the theorem are not vacuous -/
example : loadSpec (CI.headerBytes 36 1 [([107], [1, 2])]) = some (36, 1, [([107], [1, 2])]) := by
  apply loadSpec_headerBytes <;> simp
example : loadSpec (CI.magic ++ [12, 0, 0, 0] ++ List.replicate 12 1) = none := by decide
example : loadSpec ([0] ++ List.replicate 40 1) = none := by decide

end GoTies.CIHeader
