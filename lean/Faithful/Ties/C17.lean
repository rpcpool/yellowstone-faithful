import Faithful.Generated.GoFns
import Faithful.Lib.RangeCache
import Faithful.Ties.Basic
/-!
C17 ties: the range predicates of `range-cache/range-cache.go`, translated from /repo's working tree on every run,
are the ones the model of the cache (`RC.*`) uses.
-/
namespace GoTies.C17
open Go Generated.G GoTies

theorem idx_pair (a b : Int) : Go.idx [a, b] 0 = pure a ∧ Go.idx [a, b] 1 = pure b := ⟨rfl, rfl⟩

theorem lt_eq_not_le (a b : Int) : decide (a < b) = !decide (b ≤ a) := by
  rw [← decide_not]
  exact decide_eq_decide.mpr Int.not_le.symm

/-- **tie**: `Range{r0,r1}.contains(Range{q0,q1})` = `RC.containsB r0 r1 q0 q1` -/
theorem gen_rangeContains_eq_model (r0 r1 q0 q1 : Int) :
    rangeContains [r0, r1] [q0, q1] = .ok (RC.containsB r0 r1 q0 q1) := by
  unfold rangeContains
  simp only [idx_pair, pure_bind]
  rw [RC.containsB]
  cases decide (r0 ≤ q0) <;> rfl

/-- **tie**: `Range{start,e}.isValidFor(size)` is the negation of the model's `invalidB start e size` -/
theorem gen_rangeIsValidFor_eq_model (start e size : Int) :
    rangeIsValidFor [start, e] size = .ok (!RC.invalidB start e size) := by
  unfold rangeIsValidFor
  simp only [idx_pair, pure_bind]
  rw [RC.invalidB, lt_eq_not_le, lt_eq_not_le, lt_eq_not_le]
  cases decide (0 ≤ start) <;> cases decide (e ≤ size) <;> cases decide (start ≤ e) <;> rfl

example : rangeContains [0, 10] [2, 5] = .ok true := by rfl
example : rangeIsValidFor [3, 2] 10 = .ok false := by rfl

end GoTies.C17
