import Faithful.Generated.GoFns
import Faithful.Lib.Bytes
import Faithful.Ties.Basic
/-!
Direct theorems on the translated `slottools` package (regenerated from /repo's working tree on every run):
the slot → epoch routing every RPC handler, the gRPC server and the gsfa multi-epoch reader use.

* `epochForSlot` is integer division by 432000;
* away from the 64-bit wrap-around, the limits of an epoch are `[e*432000, e*432000+431999]`, a slot lies inside the
  limits of exactly the epoch it is routed to, and the limits of consecutive epochs tile the slot axis;
* the wrap-around is real for the last partial epoch: its stop slot wraps (stated, not hidden);
* `Uint64RangesHavePartialOverlapIncludingEdges` is interval intersection for well-formed intervals;
* `Uint64FromLEBytes (Uint64ToLEBytes v) = v`.
-/
namespace GoTies.Slots
open Go Generated.G GoTies

def EpochLen : Nat := 432000

theorem calcEpochForSlot_eq (s : UInt64) : calcEpochForSlotM s = .ok (s / 432000) := by rfl

theorem epochForSlot_eq (s : UInt64) : epochForSlot s = .ok (s / 432000) := by rfl

theorem epochForSlot_toNat (s : UInt64) : (s / 432000 : UInt64).toNat = s.toNat / EpochLen := by
  rw [UInt64.toNat_div]; rfl

theorem calcEpochLimits_eq (e : UInt64) : calcEpochLimits e = .ok (e * 432000, e * 432000 + 432000 - 1) := by rfl

/-- away from the wrap-around the limits are the arithmetic ones -/
theorem calcEpochLimits_toNat (e : UInt64) (h : (e.toNat + 1) * EpochLen ≤ 2 ^ 64) :
    (e * 432000 : UInt64).toNat = e.toNat * EpochLen ∧
    (e * 432000 + 432000 - 1 : UInt64).toNat = e.toNat * EpochLen + (EpochLen - 1) := by
  unfold EpochLen at *
  have h1 : (e * 432000 : UInt64).toNat = e.toNat * 432000 := by
    rw [UInt64.toNat_mul]
    have : (432000 : UInt64).toNat = 432000 := by rfl
    rw [this]
    apply Nat.mod_eq_of_lt
    have : UInt64.size = 2 ^ 64 := by rfl
    omega
  refine ⟨h1, ?_⟩
  have h2 : (e * 432000 + 432000 - 1 : UInt64) = e * 432000 + 431999 := by
    rw [UInt64.sub_eq_add_neg, UInt64.add_assoc]; rfl
  rw [h2, UInt64.toNat_add, h1]
  have : (431999 : UInt64).toNat = 431999 := by rfl
  rw [this]
  apply Nat.mod_eq_of_lt
  omega

/-- **routing theorem**: away from the wrap-around, a slot lies inside the limits of an epoch iff it is routed to it -/
theorem slot_in_limits_iff (s e : UInt64) (h : (e.toNat + 1) * EpochLen ≤ 2 ^ 64) :
    ((e * 432000 : UInt64) ≤ s ∧ s ≤ (e * 432000 + 432000 - 1 : UInt64)) ↔ s / 432000 = e := by
  obtain ⟨h1, h2⟩ := calcEpochLimits_toNat e h
  rw [UInt64.le_iff_toNat_le, UInt64.le_iff_toNat_le, h1, h2, ← UInt64.toNat_inj, epochForSlot_toNat]
  unfold EpochLen at *
  constructor
  · intro ⟨a, b⟩
    apply Nat.div_eq_of_lt_le <;> omega
  · intro hd
    have := Nat.div_add_mod s.toNat 432000
    have := Nat.mod_lt s.toNat (show 432000 > 0 by omega)
    rw [hd] at *
    omega

/-- every slot away from the last (partial) epoch lies inside the limits of the epoch it is routed to -/
theorem slot_in_own_limits (s : UInt64) (h : (s.toNat / EpochLen + 1) * EpochLen ≤ 2 ^ 64) :
    (s / 432000 * 432000 : UInt64) ≤ s ∧ s ≤ (s / 432000 * 432000 + 432000 - 1 : UInt64) := by
  apply (slot_in_limits_iff s (s / 432000) (by rw [epochForSlot_toNat]; exact h)).mpr rfl

/-- consecutive epochs tile the slot axis: the next epoch starts right after the stop slot -/
theorem limits_tile (e : UInt64) (h : (e.toNat + 2) * EpochLen ≤ 2 ^ 64) :
    ((e + 1) * 432000 : UInt64).toNat = (e * 432000 + 432000 - 1 : UInt64).toNat + 1 := by
  have he1 : (e + 1 : UInt64).toNat = e.toNat + 1 := by
    rw [UInt64.toNat_add]
    have : (1 : UInt64).toNat = 1 := by rfl
    rw [this]; apply Nat.mod_eq_of_lt
    unfold EpochLen at h; omega
  have hA : (e.toNat + 1) * EpochLen ≤ 2 ^ 64 := by
    exact Nat.le_trans (Nat.mul_le_mul_right _ (by omega)) h
  have hB : ((e + 1 : UInt64).toNat + 1) * EpochLen ≤ 2 ^ 64 := by
    rw [he1]; exact h
  obtain ⟨_, h2⟩ := calcEpochLimits_toNat e hA
  obtain ⟨h3, _⟩ := calcEpochLimits_toNat (e + 1) hB
  rw [h3, h2, he1]
  show (e.toNat + 1) * 432000 = e.toNat * 432000 + (432000 - 1) + 1
  omega

/-- the wrap-around is real: the last full epoch is 42700796466919; the partial epoch after it has a stop slot that
wraps below its start (slots ≥ 18446744073709440000 are outside what the hypothesis of the theorems above covers) -/
example : calcEpochLimits 42700796466919 = .ok (18446744073709008000, 18446744073709439999) := by rw [calcEpochLimits_eq]; rfl
example : calcEpochLimits 42700796466920 = .ok (18446744073709440000, 320383) := by rw [calcEpochLimits_eq]; rfl

theorem rangesOverlap_val (a0 a1 b0 b1 : UInt64) :
    rangesOverlap [a0, a1] [b0, b1] = .ok (if a0 < b0 then decide (a1 ≥ b0) else decide (b1 ≥ a0)) := by
  by_cases h : a0 < b0 <;> simp [rangesOverlap, Go.idx, h]

/-- **overlap**: for well-formed closed intervals the predicate is interval intersection -/
theorem rangesOverlap_eq (a0 a1 b0 b1 : UInt64) (ha : a0 ≤ a1) (hb : b0 ≤ b1) :
    rangesOverlap [a0, a1] [b0, b1] = .ok (decide (a0 ≤ b1 ∧ b0 ≤ a1)) := by
  rw [rangesOverlap_val]
  simp only [UInt64.le_iff_toNat_le, UInt64.lt_iff_toNat_lt, ge_iff_le] at ha hb ⊢
  congr 1
  split <;> apply decide_eq_decide.mpr <;> omega

/-- `[2]uint64` arguments never panic -/
theorem rangesOverlap_total (a0 a1 b0 b1 : UInt64) : ∃ r, rangesOverlap [a0, a1] [b0, b1] = .ok r :=
  ⟨_, rangesOverlap_val a0 a1 b0 b1⟩

/-- `Uint64FromLEBytes (Uint64ToLEBytes v) = v` -/
theorem uint64_le_roundtrip (v : UInt64) : (uint64ToLEBytes v >>= uint64FromLEBytes) = .ok v := by
  unfold uint64ToLEBytes uint64FromLEBytes
  simp [Go.makeOf, Go.putLeU64, Go.leU64, leDecode_eq_unle, leEncode_eq_le, B.le_length]
  have : B.unle (B.le 8 v.toNat) = v.toNat := B.unle_le_of_lt 8 _ (by have := v.toNat_lt; omega)
  have ht : List.take 8 (B.le 8 v.toNat) = B.le 8 v.toNat := by
    apply List.take_of_length_le; rw [B.le_length]; omega
  simp [ht, this]

example : epochForSlot 206459118 = .ok 477 := by rfl
example : calcEpochLimits 447 = .ok (193104000, 193535999) := by rfl
example : rangesOverlap [0, 10] [10, 15] = .ok true := by rfl
example : rangesOverlap [0, 10] [11, 15] = .ok false := by rfl

end GoTies.Slots
