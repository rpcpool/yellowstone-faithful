import Faithful.Generated.GoFns
import Faithful.Lib.Bucketteer
import Faithful.Ties.Basic
import Faithful.Ties.C05
import Faithful.Ties.BkHas
import Faithful.Ties.BkOpen
import Faithful.Properties.C05
/-!
C05 end to end, on the code in the tree: for every byte string, if `bucketteer.NewReader` succeeds then every
`Has(sig)` on the Reader it returned is `hasSpec` over the content of the file behind the header `readHeader` found.
`Has` depends on its content reader only through reads at non-negative offsets (`BkHas.has_of_reads`; its two
hypotheses are `Agree` here), and the section reader `NewReader` builds over the stream agrees with the in-memory reader
of the content.
-/
namespace GoTies.BkEnd
open Go Generated.G GoTies GoTies.C05 GoTies.BkHas GoTies.BkOpen

/-- `cr` reads like the in-memory reader of `c`: the same answer for short reads at non-negative offsets, some error at
    negative ones (`BkHas.ReadsLike` and `hneg` of `BkHas.has_of_reads`) -/
def Agree (cr : Go.ReaderAt) (c : List UInt8) : Prop :=
  (∀ (n : Int) (k : Nat), 0 ≤ n → n < 2 ^ 62 → cr n (k : Int) = memRd c n (k : Int)) ∧
  (∀ (n : Int) (o : Int), o < 0 → (cr n o).2 ≠ Go.Error.nil)

/-- the instance of `Agree` -/
theorem agree_self (c : List UInt8) : Agree (memRd c) c := ⟨fun _ _ _ _ => rfl, memRd_neg c⟩

theorem gen_bkReaderHas_agree (xx : List UInt8 → UInt64) (cr : Go.ReaderAt) (c : List UInt8) (table : List UInt64) (m : Indexmeta_Meta)
    (a b : UInt8) (rest : List UInt8) (fuel : Nat) (hA : Agree cr c)
    (htab : table.length = 65536) (hc : c.length < 2 ^ 61) (hf : 2 ^ 32 ≤ fuel) :
    match hasSpec c table (BK.prefixOf [a, b]) (xx (a :: b :: rest)).toNat fuel with
    | .yes => bkReaderHas xx fuel { contentReader := cr, meta_ := m, prefixToOffset := table } (a :: b :: rest) = .ok (true, Go.Error.nil)
    | .no => bkReaderHas xx fuel { contentReader := cr, meta_ := m, prefixToOffset := table } (a :: b :: rest) = .ok (false, Go.Error.nil)
    | .err => ∃ e, e ≠ Go.Error.nil ∧
        bkReaderHas xx fuel { contentReader := cr, meta_ := m, prefixToOffset := table } (a :: b :: rest) = .ok (false, e) := by
  have h := has_of_reads xx cr c table m a b rest fuel hA.1 hA.2 htab hc hf
  generalize hasSpec c table _ _ fuel = v at h ⊢
  cases v <;> exact h

/-- the content section `NewReader` builds over the stream reads like the in-memory reader of the bytes behind the header -/
theorem section_content_agree (l : List UInt8) (hsz : Nat) (h0 : 0 < hsz) (hle : hsz ≤ l.length) (hl : l.length < 2 ^ 62) :
    Agree (Go.sectionReader (memRd l) (hsz : Int) 9223372036854775807) (l.drop hsz) := by
  constructor
  · intro n k hn0 hn
    rw [section_nat (memRd l) hsz (9223372036854775807 - hsz) k 9223372036854775807 n (by rw [if_neg (by omega)]; omega),
      memRd_drop]
    by_cases h1 : 9223372036854775807 - hsz ≤ k
    · rw [if_pos h1, memRd_nat, if_pos (by omega)]
    · rw [if_neg h1]
      by_cases h2 : n > ((9223372036854775807 - hsz - k : Nat) : Int)
      · have hk : k + hsz ≥ l.length := by omega
        rw [if_pos h2, memRd_nat, memRd_nat, if_pos hk, if_pos hk]
        rfl
      · rw [if_neg h2]
  · intro n o ho
    unfold Go.sectionReader
    have hlim : ¬ ((hsz : Int) ≤ 9223372036854775807 - 9223372036854775807) := by omega
    simp only [hlim, if_false]
    rw [if_pos (Or.inl ho)]
    intro h; cases h

theorem hdrSpec_some (l : List UInt8) (t : Array (Option Nat)) (m : BK.MetaKVs) (hsz : Nat)
    (h : hdrSpec l = some (t, m, hsz)) : 4 ≤ hsz ∧ hsz ≤ l.length := by
  unfold hdrSpec at h
  obtain ⟨_, h⟩ := ite_none_eq_some h
  obtain ⟨_, h⟩ := ite_none_eq_some h
  obtain ⟨hfit, h⟩ := ite_none_eq_some h
  obtain ⟨_, h⟩ := ite_none_eq_some h
  obtain ⟨_, h⟩ := ite_none_eq_some h
  obtain ⟨_, h⟩ := ite_none_eq_some h
  obtain ⟨_, h⟩ := ite_none_eq_some h
  cases hpm : BK.parseMeta .v2 (((l.drop 4).take (B.unle (l.take 4))).drop 16) with
  | none => rw [hpm] at h; cases h
  | some q =>
    rw [hpm] at h
    obtain ⟨_, h⟩ := ite_none_eq_some h
    cases hpt : BK.parseTable (B.unle (q.2.take 8)) (q.2.drop 8) (Array.replicate 65536 none) with
    | none => rw [hpt] at h; cases h
    | some t' =>
      rw [hpt] at h
      cases h
      omega

/-- **end to end, on the code in the tree**: for every byte string, if `NewReader` succeeds then every `Has(sig)` on the
    Reader it returned is `hasSpec` over the content behind the header (`true` / `false` / an error, never a panic), for
    every signature and every hash function -/
theorem gen_newReader_then_has (xx : List UInt8 → UInt64) (l : List UInt8) (fuel : Nat) (hf : 2 ^ 32 ≤ fuel)
    (hl : l.length < 2 ^ 61) (r : Bucketteer_Reader) (hopen : bkNewReader fuel (memRd l) = .ok (r, Go.Error.nil))
    (a b : UInt8) (rest : List UInt8) :
    ∃ hsz, 4 ≤ hsz ∧ hsz ≤ l.length ∧
      match hasSpec (l.drop hsz) r.prefixToOffset (BK.prefixOf [a, b]) (xx (a :: b :: rest)).toNat fuel with
      | .yes => bkReaderHas xx fuel r (a :: b :: rest) = .ok (true, Go.Error.nil)
      | .no => bkReaderHas xx fuel r (a :: b :: rest) = .ok (false, Go.Error.nil)
      | .err => ∃ e, e ≠ Go.Error.nil ∧ bkReaderHas xx fuel r (a :: b :: rest) = .ok (false, e) := by
  have hspec := gen_bkNewReader_eq_spec l fuel (by omega) (by omega)
  by_cases hne : l = []
  · rw [if_pos hne] at hspec
    obtain ⟨e, hne', he⟩ := hspec
    rw [he] at hopen
    simp only [Except.ok.injEq, Prod.mk.injEq] at hopen
    exact absurd hopen.2 hne'
  · rw [if_neg hne] at hspec
    cases hs : hdrSpec l with
    | none =>
      rw [hs] at hspec
      obtain ⟨e, hne', he⟩ := hspec
      rw [he] at hopen
      simp only [Except.ok.injEq, Prod.mk.injEq] at hopen
      exact absurd hopen.2 hne'
    | some q =>
      obtain ⟨t, m, hsz⟩ := q
      rw [hs] at hspec
      obtain ⟨T, hT, he⟩ := hspec
      rw [he] at hopen
      simp only [Except.ok.injEq, Prod.mk.injEq, and_true] at hopen
      subst hopen
      obtain ⟨h4, hle⟩ := hdrSpec_some l t m hsz hs
      refine ⟨hsz, h4, hle, ?_⟩
      have hA := section_content_agree l hsz (by omega) hle (by omega)
      exact gen_bkReaderHas_agree xx _ (l.drop hsz) T (C10.ofKvs m) a b rest fuel hA hT.1
        (by rw [List.length_drop]; omega) hf

/-! ### `hdrSpec` is the header part of the model's `BK.openB` -/

/-- `hmax`: the translated `readHeader` rejects a larger size field, the model `openB` has no such guard -/
theorem openB_v2_eq (l : List UInt8) (hne : l ≠ []) (hmax : 4 ≤ l.length → B.unle (l.take 4) ≤ 785945) :
    BK.openB .v2 l.toArray = (hdrSpec l).map (fun q => ⟨.v2, q.1, q.2.2, q.2.1⟩) := by
  unfold hdrSpec BK.openB
  have hpos : 0 < l.length := by
    cases l with
    | nil => exact absurd rfl hne
    | cons _ _ => simp
  have h1 : 0 + 1 ≤ l.length := by omega
  rw [BK.rd_toArray, if_pos h1]
  simp only
  rw [BK.rd_toArray]
  by_cases h4 : l.length < 4
  · have h4n : ¬ (0 + 4 ≤ l.length) := by omega
    rw [if_pos h4, if_neg h4n]
    rfl
  · have h4' : 0 + 4 ≤ l.length := by omega
    rw [if_neg h4, if_pos h4']
    simp only
    have hsl : B.slice l 0 4 = l.take 4 := by unfold B.slice; simp
    rw [hsl]
    have hm := hmax (by omega)
    generalize B.unle (l.take 4) = hs at hm ⊢
    have hnb : ¬ (hs > 785945) := by omega
    rw [if_neg hnb, BK.rd_toArray]
    by_cases hshort : l.length < 4 + hs
    · have hsn : ¬ (4 + hs ≤ l.length) := by omega
      rw [if_pos hshort, if_neg hsn]
      rfl
    · have hsp : 4 + hs ≤ l.length := by omega
      rw [if_neg hshort, if_pos hsp]
      simp only
      have hb : B.slice l 4 hs = (l.drop 4).take hs := rfl
      rw [hb]
      generalize (l.drop 4).take hs = buf
      have hmg : BK.magicOf .v2 = magicL := rfl
      have hver : BK.versionOf .v2 = 2 := rfl
      rw [hmg, hver]
      by_cases h8 : buf.length < 8
      · have hne8 : buf.take 8 ≠ magicL := by
          intro hc
          have := congrArg List.length hc
          rw [List.length_take] at this
          unfold magicL at this
          simp at this
          omega
        rw [if_pos h8, if_pos hne8]
        rfl
      · rw [if_neg h8]
        by_cases hmagic : buf.take 8 ≠ magicL
        · rw [if_pos hmagic, if_pos hmagic]; rfl
        · rw [if_neg hmagic, if_neg hmagic]
          have hl8 : ((buf.drop 8).take 8).length < 8 ↔ (buf.drop 8).length < 8 := by
            rw [List.length_take]; omega
          by_cases hv : (buf.drop 8).length < 8
          · rw [if_pos hv, if_pos (hl8.mpr hv)]; rfl
          · rw [if_neg hv, if_neg (fun h => hv (hl8.mp h))]
            by_cases hver2 : B.unle ((buf.drop 8).take 8) ≠ 2
            · rw [if_pos hver2, if_pos hver2]; rfl
            · rw [if_neg hver2, if_neg hver2]
              cases hpm : BK.parseMeta .v2 (buf.drop 16) with
              | none => rfl
              | some q =>
                obtain ⟨m, r2⟩ := q
                simp only
                have hl8b : ((r2.take 8).length < 8) ↔ (r2.length < 8) := by
                  rw [List.length_take]; omega
                by_cases hn8 : r2.length < 8
                · rw [if_pos hn8, if_pos (hl8b.mpr hn8)]; rfl
                · rw [if_neg hn8, if_neg (fun h => hn8 (hl8b.mp h))]
                  have hnp : BK.numPrefixes = 65536 := rfl
                  rw [hnp]
                  cases BK.parseTable (B.unle (r2.take 8)) (r2.drop 8) (Array.replicate 65536 none) with
                  | none => rfl
                  | some t => rfl

theorem hdrSpec_eq_openB (l : List UInt8) (hne : l ≠ []) (hmax : 4 ≤ l.length → B.unle (l.take 4) ≤ 785945) :
    hdrSpec l = (BK.openB .v2 l.toArray).map (fun r => (r.table, r.metaKVs, r.base)) := by
  rw [openB_v2_eq l hne hmax, Option.map_map]
  cases hdrSpec l <;> rfl

/-- **the whole reader path against the model the C05 theorems are stated about**: on every byte string (with a header size
    field the format can express) the translated `NewReader` succeeds exactly when the model's `openB .v2` does, and then
    every translated `Has` answers what the model's `hasB` answers on that file — so `has_bytes_agree`, `seal_has_bytes`
    and `has_only_if_bytes` (Properties/C05) speak about the code in the tree -/
theorem gen_open_has_eq_model (xx : List UInt8 → UInt64) (l : List UInt8) (fuel : Nat) (hf : 2 ^ 32 ≤ fuel)
    (hl : l.length < 2 ^ 61) (hmax : 4 ≤ l.length → B.unle (l.take 4) ≤ 785945) :
    match BK.openB .v2 l.toArray with
    | none => ∃ e, e ≠ Go.Error.nil ∧ bkNewReader fuel (memRd l) = .ok (Bucketteer_Reader.zero, e)
    | some r => ∃ rdr, bkNewReader fuel (memRd l) = .ok (rdr, Go.Error.nil) ∧
        ∀ (a b : UInt8) (rest : List UInt8),
          match BK.hasB l.toArray r (BK.prefixOf [a, b]) (xx (a :: b :: rest)).toNat with
          | .yes => bkReaderHas xx fuel rdr (a :: b :: rest) = .ok (true, Go.Error.nil)
          | .no => bkReaderHas xx fuel rdr (a :: b :: rest) = .ok (false, Go.Error.nil)
          | .err => ∃ e, e ≠ Go.Error.nil ∧ bkReaderHas xx fuel rdr (a :: b :: rest) = .ok (false, e) := by
  have hspec := gen_bkNewReader_eq_spec l fuel (by omega) (by omega)
  by_cases hne : l = []
  · subst hne
    rw [if_pos rfl] at hspec
    exact hspec
  · rw [if_neg hne] at hspec
    rw [openB_v2_eq l hne hmax]
    cases hs : hdrSpec l with
    | none => rw [hs] at hspec; exact hspec
    | some q =>
      obtain ⟨t, m, hsz⟩ := q
      rw [hs] at hspec
      obtain ⟨T, hT, he⟩ := hspec
      obtain ⟨h4, hle⟩ := hdrSpec_some l t m hsz hs
      refine ⟨_, he, fun a b rest => ?_⟩
      have := gen_bkReaderHas_agree xx _ (l.drop hsz) T (C10.ofKvs m) a b rest fuel
        (section_content_agree l hsz (by omega) hle (by omega)) hT.1 (by rw [List.length_drop]; omega) hf
      rwa [BkHas.hasSpec_eq_hasB l ⟨.v2, t, hsz, m⟩ T _ _ fuel rfl hT (BK.prefixOf_lt _) hle hf] at this

/-! ### the writer's file: `Seal` (model `BK.encode`) → the translated reader -/

theorem metaBody_length_le (m : BK.MetaKVs) (h : ∀ kv ∈ m, kv.1.length ≤ 255 ∧ kv.2.length ≤ 255) :
    (m.flatMap fun kv => (UInt8.ofNat kv.1.length :: kv.1) ++ (UInt8.ofNat kv.2.length :: kv.2)).length ≤ 512 * m.length := by
  induction m with
  | nil => simp
  | cons kv r ih =>
    have h1 := h kv (by simp)
    have h2 := ih (fun x hx => h x (by simp [hx]))
    simp only [List.flatMap_cons, List.length_append, List.length_cons] at h2 ⊢
    omega

/-- the version-2 metadata block of a valid `Meta` is at most 1 + 255·512 bytes: the header-size guard of
    `readHeaderSize` (785945) is never hit by a file the writer produced -/
theorem metaBytes_v2_le (m : BK.MetaKVs) (hm : BK.metaOk .v2 m) : (BK.metaBytes .v2 m).length ≤ 130561 := by
  obtain ⟨hn, hkv⟩ := hm
  have := metaBody_length_le m hkv
  unfold BK.metaBytes
  simp only [List.length_cons]
  omega

/-- the sealed file of buckets below 2^29 hashes and a valid metadata block is far below the 2^61 bytes the reader
    theorems ask for (same computation as `BK.sizes_ok`, with the sharper bound) -/
theorem encode_length_lt (m : BK.MetaKVs) (sd : BK.Sealed) (hok : BK.SealedOk sd)
    (hmeta : (BK.metaBytes .v2 m).length < 2 ^ 31) : (BK.encode .v2 m sd).length < 2 ^ 61 := by
  have hn := BK.entries_length_le .v2 sd
  have hb := BK.bodyBytes_length_le (BK.entries .v2 sd) (fun e he => hok.small e.1 e.2 (BK.entries_key .v2 sd e he).2)
  have hr := BK.headerRest_length .v2 m (BK.entries .v2 sd)
  simp only [BK.numPrefixes] at hn
  have hmul : (BK.entries .v2 sd).length * (4 + 8 * 2 ^ 29) ≤ 65536 * (4 + 8 * 2 ^ 29) := Nat.mul_le_mul_right _ hn
  rw [BK.encode, List.length_append, BK.headerBytes, List.length_append, B.le_length]
  omega

/-- **C05 end to end on the translated reader**: on the file the sealing writer produces (model `BK.encode .v2`), the
    translated `NewReader` succeeds and every translated `Reader.Has(sig)` returns, with a nil error, exactly the
    verdict of the abstract set (`hasA` over the sealed buckets) — for every signature list written, every valid
    metadata, every hash function and every signature queried -/
theorem gen_has_on_sealed (xx : List UInt8 → UInt64) (h : BK.Sig → Nat) (m : BK.MetaKVs) (sigs : List BK.Sig)
    (fuel : Nat) (hf : 2 ^ 32 ≤ fuel)
    (h64 : ∀ s, h s < 2 ^ 64) (hm : BK.metaOk .v2 m)
    (hsmall : ∀ p, (BK.cleanSet ((BK.putAll h sigs).getD p [])).length < 2 ^ 29)
    (a b : UInt8) (rest : List UInt8) (hx : (xx (a :: b :: rest)).toNat = h (a :: b :: rest)) :
    ∃ rdr, bkNewReader fuel (memRd (BK.encode .v2 m (BK.sealA .v2 (BK.putAll h sigs)))) = .ok (rdr, Go.Error.nil) ∧
      bkReaderHas xx fuel rdr (a :: b :: rest) =
        .ok (BK.hasA (BK.sealA .v2 (BK.putAll h sigs)) (BK.prefixOf (a :: b :: rest)) (h (a :: b :: rest)), Go.Error.nil) := by
  have hmb := metaBytes_v2_le m hm
  have hok : BK.SealedOk (BK.sealA .v2 (BK.putAll h sigs)) := by
    apply BK.sealedOk_sealA .v2 _ _ hsmall
    intro p x hx
    by_cases hp : p < BK.numPrefixes
    · obtain ⟨s, _, _, rfl⟩ := (BK.mem_putAll h sigs p x hp).1 hx
      exact h64 s
    · have : (BK.putAll h sigs).getD p [] = [] := by simp [Array.getD, BK.size_putAll, hp]
      rw [this] at hx; simp at hx
  have hlen := encode_length_lt m _ hok (by omega)
  obtain ⟨r, hopen, hhas⟩ := _root_.C05.has_bytes_agree .v2 h m sigs h64 hm (by omega) hsmall
  generalize hE : BK.encode .v2 m (BK.sealA .v2 (BK.putAll h sigs)) = l at *
  have hmax : 4 ≤ l.length → B.unle (l.take 4) ≤ 785945 := by
    intro _
    rw [← hE]
    unfold BK.encode BK.headerBytes
    have hn := BK.entries_length_le .v2 (BK.sealA .v2 (BK.putAll h sigs))
    have hr := BK.headerRest_length .v2 m (BK.entries .v2 (BK.sealA .v2 (BK.putAll h sigs)))
    simp only [BK.numPrefixes] at hn
    have hlt : (BK.headerRest .v2 m (BK.entries .v2 (BK.sealA .v2 (BK.putAll h sigs)))).length < 256 ^ 4 := by omega
    rw [List.append_assoc, List.take_left' (B.le_length 4 _), B.unle_le_of_lt _ _ hlt]
    omega
  have hmod := gen_open_has_eq_model xx l fuel hf hlen hmax
  rw [hopen] at hmod
  obtain ⟨rdr, hnr, hall⟩ := hmod
  refine ⟨rdr, hnr, ?_⟩
  have h1 := hall a b rest
  have h2 := hhas (a :: b :: rest)
  have hp : BK.prefixOf (a :: b :: rest) = BK.prefixOf [a, b] := rfl
  rw [hp] at h2 ⊢
  rw [hx, h2] at h1
  by_cases hh : BK.hasA (BK.sealA .v2 (BK.putAll h sigs)) (BK.prefixOf [a, b]) (h (a :: b :: rest)) = true
  · rw [if_pos hh] at h1
    rw [hh]; exact h1
  · rw [if_neg hh] at h1
    have : BK.hasA (BK.sealA .v2 (BK.putAll h sigs)) (BK.prefixOf [a, b]) (h (a :: b :: rest)) = false := by
      simpa using hh
    rw [this]; exact h1

/-- the per-bucket bound follows from the number of signatures written -/
theorem small_of_length (h : BK.Sig → Nat) (sigs : List BK.Sig) (hn : sigs.length < 2 ^ 29) (p : Nat) :
    (BK.cleanSet ((BK.putAll h sigs).getD p [])).length < 2 ^ 29 :=
  _root_.C05.small_of_length h sigs hn p

/-- `gen_has_on_sealed` with the only size hypothesis a caller can check: fewer than 2^29 signatures written -/
theorem gen_has_on_sealed_of_count (xx : List UInt8 → UInt64) (h : BK.Sig → Nat) (m : BK.MetaKVs) (sigs : List BK.Sig)
    (fuel : Nat) (hf : 2 ^ 32 ≤ fuel) (h64 : ∀ s, h s < 2 ^ 64) (hm : BK.metaOk .v2 m) (hn : sigs.length < 2 ^ 29)
    (a b : UInt8) (rest : List UInt8) (hx : (xx (a :: b :: rest)).toNat = h (a :: b :: rest)) :
    ∃ rdr, bkNewReader fuel (memRd (BK.encode .v2 m (BK.sealA .v2 (BK.putAll h sigs)))) = .ok (rdr, Go.Error.nil) ∧
      bkReaderHas xx fuel rdr (a :: b :: rest) =
        .ok (BK.hasA (BK.sealA .v2 (BK.putAll h sigs)) (BK.prefixOf (a :: b :: rest)) (h (a :: b :: rest)), Go.Error.nil) :=
  gen_has_on_sealed xx h m sigs fuel hf h64 hm (small_of_length h sigs hn) a b rest hx

/-- the hypotheses are satisfiable by a non-trivial instance: three signatures (two sharing a prefix), one metadata pair,
    the hash "first eight bytes, little endian", a query for one of the written signatures -/
example :
    let h : BK.Sig → Nat := fun s => B.unle (s.take 8)
    let xx : List UInt8 → UInt64 := fun s => UInt64.ofNat (B.unle (s.take 8))
    let sigs : List BK.Sig := [[1, 2, 3, 4, 5, 6, 7, 8, 9], [1, 2, 9, 9, 9, 9, 9, 9, 9], [255, 255, 0, 0, 0, 0, 0, 1, 7]]
    ∃ rdr, bkNewReader (2 ^ 32) (memRd (BK.encode .v2 [([107], [118])] (BK.sealA .v2 (BK.putAll h sigs)))) = .ok (rdr, Go.Error.nil) ∧
      bkReaderHas xx (2 ^ 32) rdr [1, 2, 3, 4, 5, 6, 7, 8, 9] =
        .ok (BK.hasA (BK.sealA .v2 (BK.putAll h sigs)) (BK.prefixOf [1, 2, 3, 4, 5, 6, 7, 8, 9]) (h [1, 2, 3, 4, 5, 6, 7, 8, 9]), Go.Error.nil) := by
  intro h xx sigs
  have h64 : ∀ s, h s < 2 ^ 64 := fun s => unle8_lt s
  refine gen_has_on_sealed_of_count xx h [([107], [118])] sigs (2 ^ 32) (Nat.le_refl _) h64 ?_ (by decide) 1 2 [3, 4, 5, 6, 7, 8, 9] ?_
  · exact ⟨by decide, by intro kv hkv; simp at hkv; subst hkv; exact ⟨by decide, by decide⟩⟩
  · exact u64_toNat _ (unle8_lt _)

/-- **C05 as stated, on the translated reader — no false negatives**: every signature added before sealing is reported
    present (`true`, nil error) by the translated `Reader.Has` on the sealed file -/
theorem gen_no_false_negative (xx : List UInt8 → UInt64) (h : BK.Sig → Nat) (m : BK.MetaKVs) (sigs : List BK.Sig)
    (fuel : Nat) (hf : 2 ^ 32 ≤ fuel) (h64 : ∀ s, h s < 2 ^ 64) (hm : BK.metaOk .v2 m) (hn : sigs.length < 2 ^ 29)
    (a b : UInt8) (rest : List UInt8) (hmem : (a :: b :: rest) ∈ sigs)
    (hx : (xx (a :: b :: rest)).toNat = h (a :: b :: rest)) :
    ∃ rdr, bkNewReader fuel (memRd (BK.encode .v2 m (BK.sealA .v2 (BK.putAll h sigs)))) = .ok (rdr, Go.Error.nil) ∧
      bkReaderHas xx fuel rdr (a :: b :: rest) = .ok (true, Go.Error.nil) := by
  obtain ⟨rdr, ho, hh⟩ := gen_has_on_sealed_of_count xx h m sigs fuel hf h64 hm hn a b rest hx
  rw [_root_.C05.seal_has .v2 h sigs _ hmem] at hh
  exact ⟨rdr, ho, hh⟩

/-- **… and no invented positives**: if the translated `Reader.Has` answers `true` for a signature, a signature with
    the same two-byte prefix and the same 64-bit hash was added -/
theorem gen_positive_only_if (xx : List UInt8 → UInt64) (h : BK.Sig → Nat) (m : BK.MetaKVs) (sigs : List BK.Sig)
    (fuel : Nat) (hf : 2 ^ 32 ≤ fuel) (h64 : ∀ s, h s < 2 ^ 64) (hm : BK.metaOk .v2 m) (hn : sigs.length < 2 ^ 29)
    (a b : UInt8) (rest : List UInt8) (hx : (xx (a :: b :: rest)).toNat = h (a :: b :: rest))
    (rdr : Bucketteer_Reader)
    (ho : bkNewReader fuel (memRd (BK.encode .v2 m (BK.sealA .v2 (BK.putAll h sigs)))) = .ok (rdr, Go.Error.nil))
    (e : Go.Error) (hyes : bkReaderHas xx fuel rdr (a :: b :: rest) = .ok (true, e)) :
    ∃ s' ∈ sigs, BK.prefixOf s' = BK.prefixOf (a :: b :: rest) ∧ h s' = h (a :: b :: rest) := by
  obtain ⟨rdr', ho', hh⟩ := gen_has_on_sealed_of_count xx h m sigs fuel hf h64 hm hn a b rest hx
  rw [ho] at ho'
  simp only [Except.ok.injEq, Prod.mk.injEq, and_true] at ho'
  subst ho'
  rw [hh] at hyes
  simp only [Except.ok.injEq, Prod.mk.injEq] at hyes
  exact _root_.C05.has_only_if .v2 h sigs _ hyes.1

end GoTies.BkEnd
