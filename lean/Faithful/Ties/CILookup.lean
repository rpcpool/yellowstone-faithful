import Faithful.Generated.GoFns
import Faithful.Lib.CompactIndex
import Faithful.Ties.Basic
import Faithful.Ties.C04
/-!
C04 / C03 / C13 tie: the read path of the compact hash index — `DB.Lookup`, `DB.LookupBucket`, `DB.GetBucket`,
`BucketHeader.readFrom`, `Bucket.Lookup`, `Bucket.loadEntry`, `BucketHeader.Hash` (`compactindexsized/query.go`,
`compactindex.go`), translated from /repo's working tree on every run with `io.ReaderAt` errors as data — computes
`lookupSpec` over an in-memory file, for every file content, header, bucket number and key, with the two hash functions as
parameters: the value stored under the key's 24-bit hash, "not found", or an error when a read comes up short — never a
panic for a header `Header.Load` accepts (value size ≠ 0).
-/
namespace GoTies.CILookup
open Go Generated.G GoTies GoTies.C04 GoTies.BkHas

/-- the four fields `BucketHeader.Load` reads from a 16-byte bucket header -/
def hdrOf (b : Compactindexsized_BucketHeader) (bh : List UInt8) : Compactindexsized_BucketHeader :=
  { b with HashDomain := UInt32.ofNat (B.unle (B.slice bh 0 4)), NumEntries := UInt32.ofNat (B.unle (B.slice bh 4 4)),
           HashLen := bh.getD 8 0, FileOffset := UInt64.ofNat (B.unle (B.slice bh 10 6)) }

theorem readFrom_eq (b : Compactindexsized_BucketHeader) (l : List UInt8) (hs : Nat) (i : UInt64)
    (hb : b.headerSize = (hs : Int)) (h1 : hs < 2 ^ 62) (h2 : i.toNat < 2 ^ 56) :
    ciReadFrom b (memRd l) i =
      if hs + 16 * i.toNat + 16 ≤ l.length then .ok (Go.Error.nil, hdrOf b ((l.drop (hs + 16 * i.toNat)).take 16))
      else .ok (Go.Error.eof, b) := by
  unfold ciReadFrom
  dsimp only
  rw [hb, show ciBucketOffset (hs : Int) i = .ok ((hs + 16 * i.toNat : Nat) : Int) from gen_ciBucketOffset_eq_model hs i h1 h2,
    len_replicate]
  simp only [bind_ok]
  by_cases h : hs + 16 * i.toNat + 16 ≤ l.length
  · have hlen : ((l.drop (hs + 16 * i.toNat)).take 16).length = 16 := by rw [List.length_take, List.length_drop]; omega
    rw [if_pos h, memRd_ok l 16 _ h (by decide), if_neg (by rw [decide_eq_true_iff, Go.len, hlen]; exact Int.lt_irrefl _),
      pad_full _ 16 0 hlen, gen_ciBucketHeaderLoad_eq_model b _ hlen]
    rfl
  · obtain ⟨he, hlt⟩ := memRd_short l 16 _ h (by decide)
    rw [if_neg h, if_pos (decide_eq_true (by unfold Go.len; omega)), he]
    rfl

/-- the entry the model's getter decodes from the `s` bytes of entry `i` -/
def entryAt (l : List UInt8) (fo s hln ow i : Nat) : Compactindexsized_Entry :=
  { Hash := UInt64.ofNat (B.unle (((l.drop (fo + i * s)).take s).take hln)),
    Value := (((l.drop (fo + i * s)).take s).drop hln).take ow }

theorem loadEntry_eq (b : Compactindexsized_Bucket) (l : List UInt8) (fo ne s i : Nat)
    (hs : b.BucketDescriptor.Stride.toNat = s) (hs0 : 0 < s)
    (h8 : b.BucketDescriptor.BucketHeader.HashLen.toNat ≤ 8)
    (hfit : b.BucketDescriptor.BucketHeader.HashLen.toNat + b.BucketDescriptor.OffsetWidth.toNat ≤ s)
    (hE : b.Entries = Go.sectionReader (memRd l) (fo : Int) ((ne * s : Nat) : Int))
    (hi : i < ne) (hb : fo + ne * s < 2 ^ 62) :
    ciLoadEntry b (i : Int) =
      if fo + i * s + s ≤ l.length then
        .ok (entryAt l fo s b.BucketDescriptor.BucketHeader.HashLen.toNat b.BucketDescriptor.OffsetWidth.toNat i, Go.Error.nil)
      else .ok (Compactindexsized_Entry.zero, Go.Error.eof) := by
  unfold ciLoadEntry
  dsimp only
  have hs256 : s < 256 := hs ▸ b.BucketDescriptor.Stride.toNat_lt
  have hmul : i * s + s ≤ ne * s := by rw [← Nat.succ_mul]; exact Nat.mul_le_mul_right s hi
  rw [hs, makeOf_natCast 0 s (by omega), hE]
  simp only [bind_ok]
  rw [len_replicate, wrap64_natCast_mul i s (by omega), section_in l fo (ne * s) s (i * s) hb hmul hs0]
  by_cases h : fo + i * s + s ≤ l.length
  · have hlen : ((l.drop (fo + i * s)).take s).length = s := by rw [List.length_take, List.length_drop]; omega
    rw [if_pos h, memRd_ok l s _ h hs0, pad_full _ s 0 hlen, if_neg (by rw [bne_self_eq_false]; nofun),
      gen_ciUnmarshalEntry_eq_model b.BucketDescriptor _ h8 (by rw [hlen]; exact hfit) (Nat.lt_of_le_of_lt hfit hs256)]
    rfl
  · obtain ⟨he, hlt⟩ := memRd_short l s (fo + i * s) h hs0
    rw [if_neg h, if_pos (by rw [bne_iff_ne, Go.len, Go.len, pad_length _ s 0 (Nat.le_of_lt hlt)]; omega), he]
    rfl

def prefetchM (db : Compactindexsized_DB) (bucket : Compactindexsized_Bucket) : M (Compactindexsized_Bucket × Go.Error) :=
  ciMinInt64 3000 (bucket.BucketDescriptor.BucketHeader.NumEntries.toNat : Int) >>= fun t4 =>
  ciEntryStride db >>= fun t5 =>
  Go.makeOf (0 : UInt8) (Go.wrap64 ((t5.toNat : Int) * t4)) >>= fun t6 =>
  let t7 := bucket.Entries (Go.len t6) 0
  if (t7.2 != Go.Error.nil && !(Go.Error.is t7.2 Go.Error.eof)) = true then pure (Compactindexsized_Bucket.zero, t7.2)
  else pure (bucket, Go.Error.nil)

/-- the bucket `GetBucket` returns: header, stride, value width, and the section of the stream holding its entries -/
def mkBucket (db : Compactindexsized_DB) (h : Compactindexsized_BucketHeader) (s ow : UInt8) : Compactindexsized_Bucket :=
  ⟨⟨h, s, ow⟩, Go.sectionReader db.Stream (Go.intOfU64 h.FileOffset) (Go.wrap64 ((h.NumEntries.toNat : Int) * (s.toNat : Int)))⟩

def getBucketM (db : Compactindexsized_DB) (i : UInt64) : M (Compactindexsized_Bucket × Go.Error) :=
  if decide (i ≥ db.Header.NumBuckets.toUInt64) = true then
    pure (Compactindexsized_Bucket.zero, Go.Error.other "out of bounds bucket index: %d >= %d") else
  if decide (db.Header.ValueSize > 252) = true then
    pure (Compactindexsized_Bucket.zero, Go.Error.other "unsupported value size: %d") else
  ciEntryStride db >>= fun t1 => ciGetValueSize db >>= fun t2 =>
  ciReadFrom { Compactindexsized_BucketHeader.zero with headerSize := db.headerSize } db.Stream i >>= fun t3 =>
  if (t3.1 != Go.Error.nil) = true then pure (Compactindexsized_Bucket.zero, t3.1) else
  if decide (t3.2.HashLen > 3) = true then
    pure (Compactindexsized_Bucket.zero, Go.Error.other "invalid bucket header: hash length %d") else
  if db.prefetch = true then
    prefetchM db (mkBucket db t3.2 t1 t2.toUInt8)
  else pure (mkBucket db t3.2 t1 t2.toUInt8, Go.Error.nil)

theorem getBucket_unfold (db : Compactindexsized_DB) (i : UInt64) : ciGetBucket db i = getBucketM db i := rfl

theorem bind_ite {α β : Type} (c : Prop) [Decidable c] (a b : M α) (k : α → M β) :
    (if c then a else b) >>= k = if c then a >>= k else b >>= k := by
  split <;> rfl

theorem ite_ne {ρ : Type} {c : Prop} [Decidable c] {u v z : ρ} (h1 : u ≠ z) (h2 : v ≠ z) : (if c then u else v) ≠ z := by
  split <;> assumption

theorem getValueSize_eq (db : Compactindexsized_DB) (hvs : db.Header.ValueSize ≠ 0) :
    ciGetValueSize db = .ok db.Header.ValueSize := by
  unfold ciGetValueSize
  have : ¬ ((db.Header.ValueSize == 0) = true) := by simpa using hvs
  simp only [this]
  rfl

theorem entryStride_eq (db : Compactindexsized_DB) (hvs : db.Header.ValueSize ≠ 0) :
    ciEntryStride db = .ok (3 + db.Header.ValueSize.toUInt8) := by
  have h : ciEntryStride db = (ciGetValueSize db >>= fun t1 => pure (3 + t1.toUInt8)) := rfl
  rw [h, getValueSize_eq db hvs]
  rfl

theorem unle6_lt (b : List UInt8) : B.unle (B.slice b 10 6) < 2 ^ 48 := unle_take_lt (b.drop 10) 6

theorem hdrOf_hashDomain (b : Compactindexsized_BucketHeader) (bh : List UInt8) :
    (hdrOf b bh).HashDomain.toNat = B.unle (B.slice bh 0 4) := u32_toNat _ (unle_take_lt (bh.drop 0) 4)

theorem hdrOf_numEntries (b : Compactindexsized_BucketHeader) (bh : List UInt8) :
    (hdrOf b bh).NumEntries.toNat = B.unle (B.slice bh 4 4) := u32_toNat _ (unle_take_lt (bh.drop 4) 4)

theorem hdrOf_fileOffset (b : Compactindexsized_BucketHeader) (bh : List UInt8) :
    (hdrOf b bh).FileOffset.toNat = B.unle (B.slice bh 10 6) := u64_toNat _ (Nat.lt_trans (unle6_lt bh) (by decide))

theorem fileOffset_lt (b : Compactindexsized_BucketHeader) (bh : List UInt8) : (hdrOf b bh).FileOffset.toNat < 2 ^ 61 := by
  rw [hdrOf_fileOffset]; exact Nat.lt_trans (unle6_lt bh) (by decide)

theorem stride_toNat (ow : UInt8) (how : ow.toNat ≤ 252) : (3 + ow : UInt8).toNat = 3 + ow.toNat := by
  rw [UInt8.toNat_add, show (3 : UInt8).toNat = 3 from rfl]
  exact Nat.mod_eq_of_lt (by omega)

theorem mkBucket_entries (db : Compactindexsized_DB) (l : List UInt8) (h : Compactindexsized_BucketHeader) (ow : UInt8)
    (hS : db.Stream = memRd l) (how : ow.toNat ≤ 252) (hfo : h.FileOffset.toNat < 2 ^ 61) :
    (mkBucket db h (3 + ow) ow).Entries =
      Go.sectionReader (memRd l) (h.FileOffset.toNat : Int) ((h.NumEntries.toNat * (3 + ow.toNat) : Nat) : Int) ∧
    h.FileOffset.toNat + h.NumEntries.toNat * (3 + ow.toNat) < 2 ^ 62 := by
  have hmul : h.NumEntries.toNat * (3 + ow.toNat) ≤ 2 ^ 32 * 256 :=
    Nat.mul_le_mul (Nat.le_of_lt h.NumEntries.toNat_lt) (by omega)
  refine ⟨?_, by omega⟩
  show Go.sectionReader db.Stream (Go.intOfU64 h.FileOffset) (Go.wrap64 ((h.NumEntries.toNat : Int) * ((3 + ow : UInt8).toNat : Int))) = _
  rw [hS, stride_toNat ow how, wrap64_natCast_mul _ _ (by omega), Go.intOfU64, Go.wrap64_id (by omega) (by omega)]

theorem minInt64_nat (a b : Nat) : ciMinInt64 (a : Int) (b : Int) = .ok ((min a b : Nat) : Int) := by
  unfold ciMinInt64
  by_cases h : a < b
  · rw [if_pos (decide_eq_true (Int.ofNat_lt.mpr h)), Nat.min_eq_left (Nat.le_of_lt h)]; rfl
  · rw [if_neg (by rw [decide_eq_true_iff]; omega), Nat.min_eq_right (by omega)]; rfl

/-- **prefetching does not change what `GetBucket` returns** over an in-memory stream: the read-ahead can only fail with
    io.EOF, which the code ignores -/
theorem prefetch_irrelevant (db : Compactindexsized_DB) (l : List UInt8) (h : Compactindexsized_BucketHeader) (ow : UInt8)
    (hS : db.Stream = memRd l) (hvs : db.Header.ValueSize ≠ 0) (how : ow.toNat ≤ 252) (hfo : h.FileOffset.toNat < 2 ^ 61) :
    prefetchM db (mkBucket db h (3 + ow) ow) = .ok (mkBucket db h (3 + ow) ow, Go.Error.nil) := by
  unfold prefetchM
  obtain ⟨hE, hb⟩ := mkBucket_entries db l h ow hS how hfo
  have hst := (3 + db.Header.ValueSize.toUInt8 : UInt8).toNat_lt
  have hmul : (3 + db.Header.ValueSize.toUInt8 : UInt8).toNat * min 3000 h.NumEntries.toNat ≤ 256 * 3000 :=
    Nat.mul_le_mul (Nat.le_of_lt hst) (Nat.min_le_left ..)
  rw [show (mkBucket db h (3 + ow) ow).BucketDescriptor.BucketHeader = h from rfl,
    show ciMinInt64 3000 _ = _ from minInt64_nat 3000 h.NumEntries.toNat, bind_ok, entryStride_eq db hvs, bind_ok,
    wrap64_natCast_mul _ _ (by omega), makeOf_natCast 0 _ (by omega), bind_ok, hE]
  simp only
  rcases section_err0 l h.FileOffset.toNat (h.NumEntries.toNat * (3 + ow.toNat)) (Go.len (List.replicate _ (0 : UInt8))) hb
    with he | he <;> rw [he] <;> rfl

/-- `GetBucket(i)` over an in-memory stream, with or without prefetching -/
theorem getBucket_eq (db : Compactindexsized_DB) (l : List UInt8) (hs : Nat) (i : UInt64)
    (hS : db.Stream = memRd l) (hH : db.headerSize = (hs : Int))
    (hvs : db.Header.ValueSize ≠ 0) (h1 : hs < 2 ^ 62) :
    ciGetBucket db i =
      if i.toNat ≥ db.Header.NumBuckets.toNat then
        .ok (Compactindexsized_Bucket.zero, Go.Error.other "out of bounds bucket index: %d >= %d")
      else if db.Header.ValueSize.toNat > 252 then
        .ok (Compactindexsized_Bucket.zero, Go.Error.other "unsupported value size: %d")
      else if hs + 16 * i.toNat + 16 ≤ l.length then
        (if (hdrOf { Compactindexsized_BucketHeader.zero with headerSize := (hs : Int) } ((l.drop (hs + 16 * i.toNat)).take 16)).HashLen.toNat > 3 then
          .ok (Compactindexsized_Bucket.zero, Go.Error.other "invalid bucket header: hash length %d")
        else .ok (mkBucket db (hdrOf { Compactindexsized_BucketHeader.zero with headerSize := (hs : Int) } ((l.drop (hs + 16 * i.toNat)).take 16))
            (3 + db.Header.ValueSize.toUInt8) db.Header.ValueSize.toUInt8, Go.Error.nil))
      else .ok (Compactindexsized_Bucket.zero, Go.Error.eof) := by
  rw [getBucket_unfold]
  unfold getBucketM
  refine ite_eq_ite (decide_eq_true_iff.trans (by rw [ge_iff_le, UInt64.le_iff_toNat_le, UInt32.toNat_toUInt64])) rfl fun hr => ?_
  refine ite_eq_ite (decide_eq_true_iff.trans UInt64.lt_iff_toNat_lt) rfl fun hv => ?_
  have hi56 : i.toNat < 2 ^ 56 := Nat.lt_trans (Nat.lt_trans (Nat.lt_of_not_le hr) db.Header.NumBuckets.toNat_lt) (by decide)
  rw [entryStride_eq db hvs, getValueSize_eq db hvs, bind_ok, bind_ok, hS, hH, readFrom_eq _ l hs i rfl h1 hi56]
  by_cases hh : hs + 16 * i.toNat + 16 ≤ l.length
  · rw [if_pos hh, if_pos hh]
    simp only [bind_ok]
    rw [if_neg (by decide)]
    have hfo := fileOffset_lt { Compactindexsized_BucketHeader.zero with headerSize := (hs : Int) } ((l.drop (hs + 16 * i.toNat)).take 16)
    generalize hdrOf _ _ = hd at hfo ⊢
    refine ite_eq_ite (decide_eq_true_iff.trans UInt8.lt_iff_toNat_lt) rfl fun h3 => ?_
    cases db.prefetch
    · rfl
    · have how : db.Header.ValueSize.toUInt8.toNat ≤ 252 := by
        rw [UInt64.toNat_toUInt8]; exact Nat.le_trans (Nat.mod_le _ _) (Nat.le_of_not_lt hv)
      exact prefetch_irrelevant db l hd db.Header.ValueSize.toUInt8 hS hvs how hfo
  · rw [if_neg hh, if_neg hh]
    rfl

/-- the getter `Bucket.Lookup` hands to `searchEytzinger` (the method value `b.loadEntry`) -/
def getterB (b : Compactindexsized_Bucket) : Int → M Compactindexsized_Entry := fun a1 =>
  ciLoadEntry b a1 >>= fun t => if (t.2 != Go.Error.nil) = true then throw (Err.err (Go.Error.tag t.2)) else pure t.1

def bucketLookupM (eh : UInt32 → List UInt8 → UInt64) (fuel : Nat) (b : Compactindexsized_Bucket) (key : List UInt8) :
    M (List UInt8 × Go.Error) :=
  ciEntryHash eh b.BucketDescriptor.BucketHeader key >>= fun target =>
  Go.catchErr (ciSearchEytzinger fuel 0 (b.BucketDescriptor.BucketHeader.NumEntries.toNat : Int) target (getterB b)) [] >>= fun t3 =>
  pure (t3.1, t3.2)

theorem bucketLookup_unfold (eh : UInt32 → List UInt8 → UInt64) (fuel : Nat) (b : Compactindexsized_Bucket) (key : List UInt8) :
    ciBucketLookup eh fuel b key = bucketLookupM eh fuel b key := rfl

/-- `BucketHeader.Hash(key)`: the entry hash masked to `HashLen` bytes (uint8 arithmetic in the shift count, as in Go) -/
def targetOf (eh : UInt32 → List UInt8 → UInt64) (h : Compactindexsized_BucketHeader) (key : List UInt8) : UInt64 :=
  eh h.HashDomain key &&& Go.shr64 18446744073709551615 ((64 : UInt8) - h.HashLen * 8).toNat

theorem entryHash_eq (eh : UInt32 → List UInt8 → UInt64) (h : Compactindexsized_BucketHeader) (key : List UInt8) :
    ciEntryHash eh h key = .ok (targetOf eh h key) := rfl

/-- the model's entry getter over the file: entry `i` of the bucket, when its `s` bytes lie inside the file -/
def getE (l : List UInt8) (fo s hln ow : Nat) : Nat → Option CI.Ent := fun i =>
  if fo + i * s + s ≤ l.length then
    some (B.unle (((l.drop (fo + i * s)).take s).take hln), (((l.drop (fo + i * s)).take s).drop hln).take ow)
  else none

/-- how a search verdict reads as the result of `Bucket.Lookup` / `DB.Lookup` -/
def lookToRes : CI.Look → M (List UInt8 × Go.Error)
  | .found v => .ok (v, Go.Error.nil)
  | .notFound => .ok ([], Go.Error.other "ErrNotFound")
  | .err => .ok ([], Go.Error.other "EOF")
  | .hang => .error .hang

theorem bucketLookup_eq (eh : UInt32 → List UInt8 → UInt64) (fuel : Nat) (db : Compactindexsized_DB) (l : List UInt8)
    (h : Compactindexsized_BucketHeader) (ow : UInt8) (key : List UInt8)
    (hS : db.Stream = memRd l) (hhl : h.HashLen.toNat ≤ 3) (how : ow.toNat ≤ 252)
    (hfo : h.FileOffset.toNat < 2 ^ 61) (hf : 2 ^ 32 ≤ fuel) :
    ciBucketLookup eh fuel (mkBucket db h (3 + ow) ow) key =
      lookToRes (CI.searchB (getE l h.FileOffset.toNat (3 + ow.toNat) h.HashLen.toNat ow.toNat)
        (targetOf eh h key).toNat h.NumEntries.toNat fuel 0) := by
  rw [bucketLookup_unfold]
  unfold bucketLookupM
  obtain ⟨hE, hb⟩ := mkBucket_entries db l h ow hS how hfo
  have hne := h.NumEntries.toNat_lt
  have hget : ∀ i : Nat, i < h.NumEntries.toNat → getterB (mkBucket db h (3 + ow) ow) (i : Int) =
      match getE l h.FileOffset.toNat (3 + ow.toNat) h.HashLen.toNat ow.toNat i with
      | none => .error (.err "EOF")
      | some e => .ok (mkEntry e) := by
    intro i hi
    unfold getterB getE
    rw [loadEntry_eq (mkBucket db h (3 + ow) ow) l h.FileOffset.toNat h.NumEntries.toNat (3 + ow.toNat) i
      (stride_toNat ow how) (by omega) (Nat.le_trans hhl (by decide)) (Nat.add_le_add_right hhl _) hE hi hb]
    split <;> rfl
  have hr : ∀ i e, getE l h.FileOffset.toNat (3 + ow.toNat) h.HashLen.toNat ow.toNat i = some e → e.1 < 2 ^ 64 := by
    intro i e he
    unfold getE at he
    split at he
    · cases he
      exact Nat.lt_of_lt_of_le (unle_take_lt _ _) (Nat.pow_le_pow_right (by decide) (Nat.le_trans hhl (by decide) : _ ≤ 8))
    · cases he
  rw [show (mkBucket db h (3 + ow) ow).BucketDescriptor.BucketHeader = h from rfl, entryHash_eq, bind_ok,
    ciSearchEytzinger_eq_model _ (targetOf eh h key) h.NumEntries.toNat (by omega) (.err "EOF") _ fuel (by omega) hget hr]
  cases CI.searchB (getE l h.FileOffset.toNat (3 + ow.toNat) h.HashLen.toNat ow.toNat) (targetOf eh h key).toNat
    h.NumEntries.toNat fuel 0 <;> rfl

/-- `DB.Lookup(key)` over the file bytes `l`, for the bucket number `bi` that `Header.BucketHash(key)` returned:
    bounds, value-size limit, the 16-byte bucket header at `hs + 16·bi`, hash-length limit, then the search over the
    entries of the bucket -/
def lookupSpec (eh : UInt32 → List UInt8 → UInt64) (l : List UInt8) (hs : Nat) (vs : UInt64) (nb bi : Nat)
    (key : List UInt8) (fuel : Nat) : M (List UInt8 × Go.Error) :=
  if bi ≥ nb then .ok ([], Go.Error.other "out of bounds bucket index: %d >= %d")
  else if vs.toNat > 252 then .ok ([], Go.Error.other "unsupported value size: %d")
  else if hs + 16 * bi + 16 ≤ l.length then
    (if (hdrOf { Compactindexsized_BucketHeader.zero with headerSize := (hs : Int) } ((l.drop (hs + 16 * bi)).take 16)).HashLen.toNat > 3 then
      .ok ([], Go.Error.other "invalid bucket header: hash length %d")
    else
      lookToRes (CI.searchB
        (getE l (hdrOf { Compactindexsized_BucketHeader.zero with headerSize := (hs : Int) } ((l.drop (hs + 16 * bi)).take 16)).FileOffset.toNat
          (3 + vs.toUInt8.toNat)
          (hdrOf { Compactindexsized_BucketHeader.zero with headerSize := (hs : Int) } ((l.drop (hs + 16 * bi)).take 16)).HashLen.toNat
          vs.toUInt8.toNat)
        (targetOf eh (hdrOf { Compactindexsized_BucketHeader.zero with headerSize := (hs : Int) } ((l.drop (hs + 16 * bi)).take 16)) key).toNat
        (hdrOf { Compactindexsized_BucketHeader.zero with headerSize := (hs : Int) } ((l.drop (hs + 16 * bi)).take 16)).NumEntries.toNat fuel 0))
  else .ok ([], Go.Error.eof)

/-- **tie**: `DB.Lookup(key)`, as translated from the source, over an in-memory stream = `lookupSpec` — for every file
    content, every header with a non-zero value size (what `Header.Load` accepts), header size below 2^62, every key, both
    hash functions arbitrary, fuel ≥ 2^32, with or without prefetching; `bi` is whatever `Header.BucketHash(key)` returned -/
theorem gen_ciDBLookup_eq_spec (xx : List UInt8 → UInt64) (eh : UInt32 → List UInt8 → UInt64) (fuel : Nat)
    (db : Compactindexsized_DB) (l : List UInt8) (hs : Nat) (key : List UInt8) (bi : UInt64)
    (hS : db.Stream = memRd l) (hH : db.headerSize = (hs : Int))
    (hvs : db.Header.ValueSize ≠ 0) (h1 : hs < 2 ^ 62) (hf : 2 ^ 32 ≤ fuel)
    (hbh : ciBucketHash xx fuel db.Header key = .ok bi) :
    ciDBLookup xx eh fuel db key =
      lookupSpec eh l hs db.Header.ValueSize db.Header.NumBuckets.toNat bi.toNat key fuel := by
  unfold ciDBLookup ciLookupBucket lookupSpec
  dsimp only
  rw [hbh, bind_ok, getBucket_eq db l hs bi hS hH hvs h1]
  simp only [bind_ite, bind_ok, pure_eq_ok]
  refine ite_congr rfl (fun _ => rfl) fun _ => ?_
  refine ite_congr rfl (fun _ => rfl) fun hv => ?_
  refine ite_congr rfl (fun _ => ?_) fun _ => rfl
  have hfo := fileOffset_lt { Compactindexsized_BucketHeader.zero with headerSize := (hs : Int) } ((l.drop (hs + 16 * bi.toNat)).take 16)
  generalize hdrOf _ _ = hd at hfo ⊢
  refine ite_congr rfl (fun _ => rfl) fun h3 => ?_
  have how : db.Header.ValueSize.toUInt8.toNat ≤ 252 := by
    rw [UInt64.toNat_toUInt8]; exact Nat.le_trans (Nat.mod_le _ _) (Nat.le_of_not_lt hv)
  rw [if_neg (by decide), bucketLookup_eq eh fuel db l hd db.Header.ValueSize.toUInt8 key hS (Nat.le_of_not_lt h3) how hfo hf]
  cases CI.searchB (getE l hd.FileOffset.toNat (3 + db.Header.ValueSize.toUInt8.toNat) hd.HashLen.toNat db.Header.ValueSize.toUInt8.toNat)
    (targetOf eh hd key).toNat hd.NumEntries.toNat fuel 0 <;> rfl

/-- never a panic -/
theorem gen_ciDBLookup_no_panic (xx : List UInt8 → UInt64) (eh : UInt32 → List UInt8 → UInt64) (fuel : Nat)
    (db : Compactindexsized_DB) (l : List UInt8) (hs : Nat) (key : List UInt8) (bi : UInt64)
    (hS : db.Stream = memRd l) (hH : db.headerSize = (hs : Int))
    (hvs : db.Header.ValueSize ≠ 0) (h1 : hs < 2 ^ 62) (hf : 2 ^ 32 ≤ fuel)
    (hbh : ciBucketHash xx fuel db.Header key = .ok bi) :
    ∀ w, ciDBLookup xx eh fuel db key ≠ .error (.panic w) := by
  intro w
  rw [gen_ciDBLookup_eq_spec xx eh fuel db l hs key bi hS hH hvs h1 hf hbh]
  have hl : ∀ r, lookToRes r ≠ .error (.panic w) := fun r => by cases r <;> nofun
  exact ite_ne nofun (ite_ne nofun (ite_ne (ite_ne nofun (hl _)) nofun))

/-! examples: one bucket (header at offset 0: nonce 0, one entry, hash length 3, entries at offset 16), one entry
    `hash 0x010203 ↦ [9, 8]`, value size 2 -/
def exFile : List UInt8 := [0,0,0,0, 1,0,0,0, 3,0, 16,0,0,0,0,0] ++ [3,2,1, 9,8]

example : lookupSpec (fun _ _ => 0x010203) exFile 0 2 1 0 [7] 100 = .ok ([9, 8], Go.Error.nil) := by rfl
example : lookupSpec (fun _ _ => 0x010204) exFile 0 2 1 0 [7] 100 = .ok ([], Go.Error.other "ErrNotFound") := by rfl
example : lookupSpec (fun _ _ => 0x010203) (exFile.take 20) 0 2 1 0 [7] 100 = .ok ([], Go.Error.other "EOF") := by rfl
example : lookupSpec (fun _ _ => 0x010203) (exFile.take 15) 0 2 1 0 [7] 100 = .ok ([], Go.Error.eof) := by rfl
example : lookupSpec (fun _ _ => 0x010203) exFile 0 2 1 1 [7] 100 = .ok ([], Go.Error.other "out of bounds bucket index: %d >= %d") := by rfl

end GoTies.CILookup
