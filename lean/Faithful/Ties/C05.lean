import Faithful.Generated.GoFns
import Faithful.Lib.Bucketteer
import Faithful.Ties.Eytz
/-!
C05 ties: functions of package `bucketteer` translated from /repo's working tree on every run (`Generated.G.*`) compute
what the hand-written model `BK.*` says, for all inputs.
-/
namespace GoTies.C05
open Go Generated.G GoTies

/-- how the model's verdict of `searchB` reads as the Go result of `searchEytzinger` followed by `got == wanted`:
    `yes` = `(x, nil)`, `no` = `(0, ErrNotFound)`, `err` = the getter's error -/
def resToM (x : UInt64) (ioErr : Err) : BK.Res → M UInt64
  | .yes => .ok x
  | .no => .error (.err "ErrNotFound")
  | .err => .error ioErr

/-- `BK.searchB` forgets where `walk` stops -/
theorem searchB_eq_walk (get : Nat → Option Nat) (x max : Nat) : ∀ fuel n,
    BK.searchB get x max fuel n =
      match EytzTie.walk get id x max fuel n with
      | .hit _ => .yes
      | .miss _ => .no
      | .fail => .err := by
  intro fuel
  induction fuel with
  | zero => intro n; rfl
  | succ f ih =>
    intro n
    rw [BK.searchB, EytzTie.walk]
    split
    · cases get n with
      | none => rfl
      | some k =>
        simp only [id]
        split
        · rfl
        · exact ih _
    · rfl

/-- the loops of bucketteer and deprecated/bucketteer (entries are the hashes themselves; the entry returned is `x`).
    Stands first: the `match` of its `hget` names the matcher (`bk_loop_walk.match_1`) of the ties' statements. -/
theorem bk_loop_walk (loop : Nat → Int → M (LoopRes UInt64 Int)) (getter : Int → M UInt64) (x : UInt64) (max : Nat)
    (hloop : ∀ fuel (n : Nat), loop (fuel + 1) n = EytzTie.searchBody id id getter max x (loop fuel) n)
    (hmax : max < 2^62) (get : Nat → Option Nat) (ioErr : Err)
    (hget : ∀ i : Nat, i < max → getter (i : Int) = match get i with | none => .error ioErr | some k => .ok (UInt64.ofNat k))
    (hr : ∀ i k, get i = some k → k < 2^64) :
    ∀ (fuel n : Nat), max < n + fuel → 0 < fuel →
      loop fuel n = (EytzTie.walk get id x.toNat max fuel n).toLoop (fun _ => x) ioErr :=
  EytzTie.loop_eq_walk id id getter max hmax x loop hloop get id UInt64.ofNat (fun _ => x) ioErr
    (fun i hi h => by rw [hget i hi, h]) (fun i a hi h => by rw [hget i hi, h]) hr (fun _ => rfl)
    (fun k (hk : k = x.toNat) => by subst hk; exact UInt64.ofNat_toNat)

theorem bkSearchEytzinger_eq_model (get : Nat → Option Nat) (x : UInt64) (max : Nat) (hmax : max < 2^62) (ioErr : Err)
    (getter : Int → M UInt64) (fuel : Nat) (hf : max < fuel)
    (hget : ∀ i : Nat, i < max → getter (i : Int) = match get i with | none => .error ioErr | some k => .ok (UInt64.ofNat k))
    (hr : ∀ i k, get i = some k → k < 2^64) :
    bkSearchEytzinger fuel 0 (max : Int) x getter = resToM x ioErr (BK.searchB get x.toNat max fuel 0) := by
  have h := bk_loop_walk (bkSearchEytzinger.loop1 fuel getter max x) getter x max (fun _ _ => rfl) hmax get ioErr hget hr
    fuel 0 (by omega) (by omega)
  simp only [Int.natCast_zero] at h
  simp only [bkSearchEytzinger, h, searchB_eq_walk]
  cases EytzTie.walk get id x.toNat max fuel 0 <;> rfl

/-- **tie**: bucketteer's `searchEytzinger(0, max, x, getter)` as translated from the source answers exactly what the
    model's `searchB` answers — for every getter (failing reads included), every bucket size below 2^62 and every wanted
    hash — and `max + 1` units of fuel suffice. -/
theorem gen_bkSearchEytzinger_eq_model (get : Nat → Option Nat) (x : UInt64) (max : Nat) (hmax : max < 2^62) (ioErr : Err)
    (getter : Int → M UInt64)
    (hget : ∀ i : Nat, i < max → getter (i : Int) = match get i with | none => .error ioErr | some k => .ok (UInt64.ofNat k))
    (hr : ∀ i k, get i = some k → k < 2^64) :
    bkSearchEytzinger (max + 1) 0 (max : Int) x getter = resToM x ioErr (BK.searchB get x.toNat max (max + 1) 0) :=
  bkSearchEytzinger_eq_model get x max hmax ioErr getter (max + 1) (by omega) hget hr

/-- **tie** (deprecated/bucketteer, the version-1 format): `searchEytzinger(0, max, x, getter)` as translated from the source answers exactly what the
    model's `searchB` answers — for every getter (failing reads included), every bucket size below 2^62 and every wanted
    hash — and `max + 1` units of fuel suffice. -/
theorem gen_bk1SearchEytzinger_eq_model (get : Nat → Option Nat) (x : UInt64) (max : Nat) (hmax : max < 2^62) (ioErr : Err)
    (getter : Int → M UInt64)
    (hget : ∀ i : Nat, i < max → getter (i : Int) = match get i with | none => .error ioErr | some k => .ok (UInt64.ofNat k))
    (hr : ∀ i k, get i = some k → k < 2^64) :
    bk1SearchEytzinger (max + 1) 0 (max : Int) x getter = resToM x ioErr (BK.searchB get x.toNat max (max + 1) 0) := by
  have h := bk_loop_walk (bk1SearchEytzinger.loop1 (max + 1) getter max x) getter x max (fun _ _ => rfl) hmax get ioErr hget hr
    (max + 1) 0 (by omega) (by omega)
  simp only [Int.natCast_zero] at h
  simp only [bk1SearchEytzinger, h, searchB_eq_walk]
  cases EytzTie.walk get id x.toNat max (max + 1) 0 <;> rfl

/-! ### prefixToUint16 / uint16ToPrefix (read.go) = `BK.prefixOf` -/

/-- **tie**: the bucket number of a signature is `sig[0] + 256·sig[1]` -/
theorem gen_bkPrefixToUint16_eq_model (a b : UInt8) : bkPrefixToUint16 [a, b] = .ok (UInt16.ofNat (BK.prefixOf [a, b])) := by
  unfold bkPrefixToUint16 BK.prefixOf
  simp [Go.leU16, Go.leDecode]

theorem gen_bkUint16ToPrefix_eq_model (n : UInt16) : bkUint16ToPrefix n = .ok (B.le 2 n.toNat) := by
  unfold bkUint16ToPrefix
  simp [Go.putLeU16, leEncode_eq_le]

/-- the two conversions are inverse to each other -/
theorem gen_prefix_roundtrip (n : UInt16) : (bkUint16ToPrefix n >>= bkPrefixToUint16) = .ok n := by
  rw [gen_bkUint16ToPrefix_eq_model]
  simp only [bind_ok]
  unfold bkPrefixToUint16
  simp only [Go.leU16, B.le, List.length_cons, List.length_nil, Nat.reduceAdd, Nat.le_refl, if_true, pure_eq_ok,
    List.take, Go.leDecode]
  congr 1
  apply UInt16.toNat_inj.mp
  have := n.toNat_lt
  simp [UInt16.toNat_ofNat', UInt8.toNat_ofNat']
  omega

example : bkSearchEytzinger 4 0 3 7 (fun i => if i = 0 then .ok 5 else if i = 2 then .ok 7 else .error (.err "io")) = .ok 7 := by rfl
example : bkPrefixToUint16 [0x34, 0x12] = .ok 0x1234 := by rfl

end GoTies.C05
