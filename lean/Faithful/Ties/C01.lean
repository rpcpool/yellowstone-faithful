import Faithful.Generated.GoFns
import Faithful.Lib.IndexAll
import Faithful.Ties.Basic
/-!
C01 ties: the value codec of the cid → offset-and-size index (`indexes/uints.go`, `indexes/offset-and-size.go`),
translated from /repo's working tree on every run, is the codec of the model (`IndexAll.oasEncode / oasDecode`).
-/
namespace GoTies.C01
open Go Generated.G GoTies

theorem le_take (w v k : Nat) (hk : k ≤ w) : (B.le w v).take k = B.le k v := by
  induction k generalizing w v with
  | zero => simp [B.le]
  | succ k ih =>
    obtain ⟨w', rfl⟩ : ∃ w', w = w' + 1 := ⟨w - 1, by omega⟩
    simp only [B.le, List.take_succ_cons]
    rw [ih w' (v / 256) (by omega)]

theorem slice_le (w v k : Nat) (hk : k ≤ w) : Go.slice (B.le w v) 0 (k : Int) = .ok (B.le k v) := by
  rw [show Go.slice (B.le w v) 0 (k : Int) = _ from slice_natCast (B.le w v) 0 k (Nat.zero_le k) (by rw [B.le_length]; exact hk)]
  exact congrArg _ (le_take w v k hk)

theorem putLeU64_fresh (v : UInt64) : Go.putLeU64 (List.replicate 8 0) v = .ok (B.le 8 v.toNat) := by
  rw [Go.putLeU64, if_pos (by decide), leEncode_eq_le]; rfl

theorem putLeU32_fresh (v : UInt32) : Go.putLeU32 (List.replicate 4 0) v = .ok (B.le 4 v.toNat) := by
  rw [Go.putLeU32, if_pos (by decide), leEncode_eq_le]; rfl

/-- **tie**: `Uint48tob(v)` = the six low little-endian bytes of `v`; values above 2^48-1 panic -/
theorem gen_uint48tob_eq_model (v : UInt64) :
    uint48tob v = if v.toNat ≤ 2^48 - 1 then .ok (B.le 6 v.toNat) else .error (.panic "uint48tob: value out of range") := by
  unfold uint48tob
  have hv : decide (v > 281474976710655) = true ↔ ¬ v.toNat ≤ 2 ^ 48 - 1 :=
    decide_eq_true_iff.trans (UInt64.lt_iff_toNat_lt.trans (by rw [show (281474976710655 : UInt64).toNat = 2 ^ 48 - 1 from rfl]; omega))
  by_cases h : v.toNat ≤ 2^48 - 1
  · rw [if_pos h, if_neg (fun hc => hv.mp hc h)]
    simp only [show Go.makeOf (0 : UInt8) 8 = _ from makeOf_natCast 0 8 (by decide), bind_ok, putLeU64_fresh,
      show Go.slice (B.le 8 v.toNat) 0 6 = _ from slice_le 8 v.toNat 6 (by decide)]
  · rw [if_neg h, if_pos (hv.mpr h)]
    rfl

/-- **tie**: `Uint24tob(v)` = the three low little-endian bytes of `v`; values above 2^24-1 panic -/
theorem gen_uint24tob_eq_model (v : UInt32) :
    uint24tob v = if v.toNat ≤ 2^24 - 1 then .ok (B.le 3 v.toNat) else .error (.panic "uint24tob: value out of range") := by
  unfold uint24tob
  have hv : decide (v > 16777215) = true ↔ ¬ v.toNat ≤ 2 ^ 24 - 1 :=
    decide_eq_true_iff.trans (UInt32.lt_iff_toNat_lt.trans (by rw [show (16777215 : UInt32).toNat = 2 ^ 24 - 1 from rfl]; omega))
  by_cases h : v.toNat ≤ 2^24 - 1
  · rw [if_pos h, if_neg (fun hc => hv.mp hc h)]
    simp only [show Go.makeOf (0 : UInt8) 4 = _ from makeOf_natCast 0 4 (by decide), bind_ok, putLeU32_fresh,
      show Go.slice (B.le 4 v.toNat) 0 3 = _ from slice_le 4 v.toNat 3 (by decide)]
  · rw [if_neg h, if_pos (hv.mpr h)]
    rfl

theorem cloneAndPad_eq (buf : List UInt8) (pad : Nat) (h : buf.length + pad < 2 ^ 48) :
    cloneAndPad buf (pad : Int) = .ok (buf ++ List.replicate pad 0) := by
  unfold cloneAndPad Go.len
  dsimp only
  rw [← Int.natCast_add, Go.wrap64_id (by omega) (by omega), makeOf_natCast 0 _ h]
  simp only [bind_ok, pure_eq_ok, Go.copy, List.length_replicate, Nat.min_eq_right (Nat.le_add_right ..), List.take_length,
    List.drop_replicate, Nat.add_sub_cancel_left]

/-- **tie**: `BtoUint48(buf)` on the six bytes it is given = their little-endian value -/
theorem gen_btoUint48_eq_model (buf : List UInt8) (hl : buf.length = 6) : btoUint48 buf = .ok (UInt64.ofNat (B.unle buf)) := by
  unfold btoUint48
  simp only [show Go.idx buf 5 = _ from idx_natCast buf 5 (by omega), bind_ok,
    show cloneAndPad buf 2 = _ from cloneAndPad_eq buf 2 (by omega),
    leU64_eq (buf ++ List.replicate 2 0) (by rw [List.length_append, hl]; rfl), unle_append_zeros]

/-- **tie**: `BtoUint24(buf)` on the three bytes it is given = their little-endian value -/
theorem gen_btoUint24_eq_model (buf : List UInt8) (hl : buf.length = 3) : btoUint24 buf = .ok (UInt32.ofNat (B.unle buf)) := by
  unfold btoUint24
  simp only [show Go.idx buf 2 = _ from idx_natCast buf 2 (by omega), bind_ok,
    show cloneAndPad buf 1 = _ from cloneAndPad_eq buf 1 (by omega),
    leU32_eq (buf ++ List.replicate 1 0) (by rw [List.length_append, hl]; rfl), unle_append_zeros]

/-- **tie**: `OffsetAndSize.Bytes()` = `oasEncode offset size` for every value the format can hold -/
theorem gen_oasBytes_eq_model (off sz : UInt64) (ho : off.toNat < 2^48) (hs : sz.toNat < 2^24) :
    oasBytes { Offset := off, Size := sz } = .ok (IndexAll.oasEncode off.toNat sz.toNat) := by
  unfold oasBytes IndexAll.oasEncode
  have h32 : sz.toUInt32.toNat = sz.toNat := by
    simp [UInt64.toNat_toUInt32]; omega
  simp only [gen_uint48tob_eq_model, gen_uint24tob_eq_model, h32]
  have h1 : off.toNat ≤ 2^48 - 1 := by omega
  have h2 : sz.toNat ≤ 2^24 - 1 := by omega
  simp [h1, h2]

/-- **tie**: `OffsetAndSize.FromBytes(buf)` on a 9-byte value = `oasDecode buf` -/
theorem gen_oasFromBytes_eq_model (z : Indexes_OffsetAndSize) (buf : List UInt8) (hl : buf.length = 9) :
    oasFromBytes z buf = .ok { Offset := UInt64.ofNat (IndexAll.oasDecode buf).1, Size := UInt64.ofNat (IndexAll.oasDecode buf).2 } := by
  have h6 : (buf.take 6).length = 6 := by rw [List.length_take, hl]; rfl
  have h3 : (buf.drop 6).length = 3 := by rw [List.length_drop, hl]
  have hsz : B.unle (buf.drop 6) < 2 ^ 32 := Nat.lt_trans (h3 ▸ unle_lt (buf.drop 6)) (by decide)
  unfold oasFromBytes IndexAll.oasDecode
  simp only [Go.len, hl, show ((9 : Nat) : Int) != 9 ↔ False from by decide, if_false,
    show Go.idx buf 8 = _ from idx_natCast buf 8 (by omega), bind_ok, pure_eq_ok,
    show Go.slice buf 0 6 = .ok (buf.take 6) from slice_natCast buf 0 6 (by omega) (by omega), gen_btoUint48_eq_model _ h6,
    show Go.slice buf 6 ((9 : Nat) : Int) = .ok (buf.drop 6) from hl ▸ slice_to_end buf 6 (by omega), gen_btoUint24_eq_model _ h3]
  congr 2
  exact UInt64.toNat_inj.mp (by rw [UInt32.toNat_toUInt64, u32_toNat _ hsz, u64_toNat _ (by omega)])

/-- a value of the wrong length is an error, not a panic -/
theorem gen_oasFromBytes_wrong_length (z : Indexes_OffsetAndSize) (buf : List UInt8) (hl : buf.length ≠ 9) :
    oasFromBytes z buf = .error (.err "invalid byte slice length") := by
  unfold oasFromBytes
  have : (Go.len buf != 9) = true := by
    simp [Go.len]; omega
  simp [this, throw, throwThe, MonadExceptOf.throw]

example : oasBytes { Offset := 0x0102030405, Size := 0x0a0b } = .ok [5,4,3,2,1,0,0x0b,0x0a,0] := by rfl

end GoTies.C01
