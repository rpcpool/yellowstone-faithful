import Faithful.Generated.GoFns
import Faithful.Lib.CompactIndex
import Faithful.Ties.Basic
import Faithful.Ties.CIHeader
import Faithful.Ties.CILookup
/-!
C04 / C12 / C13 tie: `compactindexsized.Open` (`query.go`), translated from /repo's working tree on every run, over an
in-memory stream = `openSpec` — twelve bytes, the magic, the length field within `[13, 130574]`, the whole header, then
`Header.Load` (`Ties/CIHeader.lean`); and the end-to-end statement: for EVERY byte string, if `Open` succeeds then every
`Lookup` on the DB it returned is `lookupSpec` over the same bytes (`Ties/CILookup.lean`) — no panic anywhere on the way.
-/
namespace GoTies.CIOpen
open Go Generated.G GoTies GoTies.BkHas GoTies.CILookup GoTies.CIHeader GoTies.C10

/-- `Open` over the file bytes: `none` = an error -/
def openSpec (l : List UInt8) : Option (Nat × Nat × IndexMeta.KVs × Nat) :=
  if l.length < 12 then none
  else if l.take 8 ≠ [99, 111, 109, 112, 105, 115, 122, 100] then none
  else
    let size := B.unle ((l.drop 8).take 4)
    if size < 13 ∨ size > 130574 then none
    else if l.length < 12 + size then none
    else match loadSpec (l.take (12 + size)) with
      | none => none
      | some (vs, nb, m) => some (vs, nb, m, 12 + size)

def OpenFails (r : M (Compactindexsized_DB × Go.Error)) : Prop :=
  ∃ e, e ≠ Go.Error.nil ∧ r = .ok (Compactindexsized_DB.zero, e)

theorem openFails_of_ne {e : Go.Error} (h : e ≠ Go.Error.nil) : OpenFails (.ok (Compactindexsized_DB.zero, e)) := ⟨e, h, rfl⟩

def dbOfSpec (l : List UInt8) (r : Nat × Nat × IndexMeta.KVs × Nat) : M (Compactindexsized_DB × Go.Error) :=
  .ok ({ Header := { ValueSize := UInt64.ofNat r.1, NumBuckets := UInt32.ofNat r.2.1, Metadata := ofKvs r.2.2.1 },
         headerSize := (r.2.2.2 : Int), Stream := memRd l, prefetch := false }, Go.Error.nil)

theorem open_realizes (l : List UInt8) (fuel : Nat) (hf : 256 < fuel) (hl : l.length < 2 ^ 62) :
    Realizes OpenFails (dbOfSpec l) (openSpec l) (ciOpen fuel (memRd l)) := by
  unfold ciOpen openSpec
  dsimp only
  rw [len_replicate]
  refine .ite (decide_eq_true_iff.trans (memRd0_short_iff l 12 (by decide)))
    (fun h => openFails_of_ne (by rw [memRd0_eof l 12 h]; nofun)) fun h12 => ?_
  have h12 : 12 ≤ l.length := Nat.le_of_not_lt h12
  have hlen : (l.take 12).length = 12 := by rw [List.length_take]; exact Nat.min_eq_left h12
  rw [memRd0_ok l 12 h12 (by decide), pad_full _ 12 0 hlen,
    (show Go.slice (l.take 12) 0 8 = .ok ((l.take 12).take 8) from slice_natCast _ 0 8 (by decide) (by rw [hlen]; decide)),
    List.take_take, bind_ok]
  refine .ite (b := !(l.take 8 == _)) (by rw [Bool.not_eq_true', beq_eq_false_iff_ne])
    (fun _ => openFails_of_ne nofun) fun _ => ?_
  rw [(show Go.slice (l.take 12) 8 (Go.len (l.take 12)) = .ok ((l.drop 8).take 4) from
      (slice_to_end _ 8 (by rw [hlen]; decide)).trans (congrArg _ (List.drop_take ..))), bind_ok,
    leU32_eq _ (length_take_drop l 8 4 h12), bind_ok]
  have hsz := unle_take_lt (l.drop 8) 4
  generalize B.unle ((l.drop 8).take 4) = sz at hsz ⊢
  refine .ite (by rw [Bool.or_eq_true, decide_eq_true_iff, decide_eq_true_iff]
                  exact or_congr (u32_lt_iff sz 13 hsz (by decide)) (u32_lt_iff 130574 sz (by decide) hsz))
    (fun _ => openFails_of_ne nofun) fun hr => ?_
  have hadd : (12 + UInt32.ofNat sz : UInt32).toNat = 12 + sz := by
    rw [UInt32.toNat_add, u32_toNat sz hsz, show (12 : UInt32).toNat = 12 from rfl]
    exact Nat.mod_eq_of_lt (by omega)
  rw [hadd, makeOf_natCast 0 (12 + sz) (by omega), bind_ok, len_replicate]
  have hle : (memRd l ((12 + sz : Nat) : Int) 0).1.length ≤ 12 + sz := memRd_len_le l (12 + sz) 0
  refine .ite (by rw [decide_eq_true_iff, Go.len, Go.len, pad_length _ _ _ hle]
                  exact memRd0_short_iff l (12 + sz) (by omega))
    (fun h => openFails_of_ne (by rw [memRd0_eof l _ h]; nofun)) fun hfit => ?_
  have hlenb : (l.take (12 + sz)).length = 12 + sz := by rw [List.length_take]; omega
  rw [memRd0_ok l (12 + sz) (by omega) (by omega), pad_full _ _ 0 hlenb, load_unfold]
  have hload := loadM_realizes (l.take (12 + sz)) fuel hf (by omega)
  cases hs : loadSpec (l.take (12 + sz)) with
  | none =>
    obtain ⟨t, ht⟩ := hload.2 hs
    rw [ht]
    exact .none (openFails_of_ne (e := Go.Error.other t) nofun)
  | some r =>
    rw [hload.1 r hs]
    exact .some (r.1, r.2.1, r.2.2, 12 + sz)

/-- **tie**: `Open(stream)`, as translated from the source, over an in-memory stream = `openSpec`: the DB with the header
    fields, the header size and the stream, or a non-nil error — for every byte string below 2^62 bytes -/
theorem gen_ciOpen_eq_spec (l : List UInt8) (fuel : Nat) (hf : 256 < fuel) (hl : l.length < 2 ^ 62) :
    match openSpec l with
    | some (vs, nb, m, hsz) => ciOpen fuel (memRd l) =
        .ok ({ Header := { ValueSize := UInt64.ofNat vs, NumBuckets := UInt32.ofNat nb, Metadata := ofKvs m },
               headerSize := (hsz : Int), Stream := memRd l, prefetch := false }, Go.Error.nil)
    | none => ∃ e, e ≠ Go.Error.nil ∧ ciOpen fuel (memRd l) = .ok (Compactindexsized_DB.zero, e) := by
  have h := open_realizes l fuel hf hl
  cases hs : openSpec l with
  | none => exact h.2 hs
  | some r => exact h.1 r hs

theorem loadSpec_some (b : List UInt8) (vs nb : Nat) (m : IndexMeta.KVs) (h : loadSpec b = some (vs, nb, m)) :
    vs ≠ 0 ∧ vs < 2 ^ 64 := by
  unfold loadSpec at h
  obtain ⟨_, h⟩ := ite_none_eq_some h
  obtain ⟨_, h⟩ := ite_none_eq_some h
  obtain ⟨_, h⟩ := ite_none_eq_some h
  obtain ⟨_, h⟩ := ite_none_eq_some h
  obtain ⟨_, h⟩ := ite_none_eq_some h
  cases hd : IndexMeta.decode (b.drop 25) with
  | none => rw [hd] at h; cases h
  | some m' =>
    rw [hd] at h
    obtain ⟨h0, h⟩ := ite_none_eq_some h
    obtain ⟨_, h⟩ := ite_none_eq_some h
    cases h
    exact ⟨h0, unle_take_lt (b.drop 12) 8⟩

theorem openSpec_some (l : List UInt8) (vs nb : Nat) (m : IndexMeta.KVs) (hsz : Nat) (h : openSpec l = some (vs, nb, m, hsz)) :
    vs ≠ 0 ∧ vs < 2 ^ 64 ∧ hsz ≤ l.length := by
  unfold openSpec at h
  obtain ⟨_, h⟩ := ite_none_eq_some h
  obtain ⟨_, h⟩ := ite_none_eq_some h
  obtain ⟨_, h⟩ := ite_none_eq_some h
  obtain ⟨hfit, h⟩ := ite_none_eq_some h
  cases hs : loadSpec (l.take (12 + B.unle ((l.drop 8).take 4))) with
  | none => rw [hs] at h; cases h
  | some r =>
    obtain ⟨vs', nb', m'⟩ := r
    rw [hs] at h
    cases h
    exact ⟨(loadSpec_some _ _ _ _ hs).1, (loadSpec_some _ _ _ _ hs).2, by omega⟩

/-- **end to end, on the code in the tree**: for every byte string, if `Open` succeeds on it then every `Lookup` on the DB
    it returned is `lookupSpec` over the same bytes (with the header size and the header fields `Open` read), whatever
    bucket number `Header.BucketHash(key)` returned — and none of the calls on the way can panic -/
theorem gen_open_then_lookup (xx : List UInt8 → UInt64) (eh : UInt32 → List UInt8 → UInt64) (l : List UInt8) (fuel : Nat)
    (hf : 2 ^ 32 ≤ fuel) (hl : l.length < 2 ^ 62) (db : Compactindexsized_DB)
    (hopen : ciOpen fuel (memRd l) = .ok (db, Go.Error.nil)) (key : List UInt8) (bi : UInt64)
    (hbh : ciBucketHash xx fuel db.Header key = .ok bi) :
    ciDBLookup xx eh fuel db key =
      lookupSpec eh l db.headerSize.toNat db.Header.ValueSize db.Header.NumBuckets.toNat bi.toNat key fuel := by
  have hspec := gen_ciOpen_eq_spec l fuel (by omega) hl
  cases hs : openSpec l with
  | none =>
    rw [hs] at hspec
    obtain ⟨e, hne, he⟩ := hspec
    rw [he] at hopen
    simp only [Except.ok.injEq, Prod.mk.injEq] at hopen
    exact absurd hopen.2 hne
  | some r =>
    obtain ⟨vs, nb, m, hsz⟩ := r
    rw [hs] at hspec
    simp only at hspec
    rw [hspec] at hopen
    simp only [Except.ok.injEq, Prod.mk.injEq, and_true] at hopen
    obtain ⟨hvs0, hvs64, hszl⟩ := openSpec_some l vs nb m hsz hs
    subst hopen
    have hne0 : (UInt64.ofNat vs) ≠ 0 := by
      intro hc
      have := congrArg UInt64.toNat hc
      rw [u64_toNat vs hvs64] at this
      exact hvs0 this
    have := gen_ciDBLookup_eq_spec xx eh fuel
      { Header := { ValueSize := UInt64.ofNat vs, NumBuckets := UInt32.ofNat nb, Metadata := ofKvs m },
        headerSize := (hsz : Int), Stream := memRd l, prefetch := false } l hsz key bi rfl rfl hne0 (by omega) hf hbh
    rw [this]
    simp only [Int.toNat_natCast]

end GoTies.CIOpen
