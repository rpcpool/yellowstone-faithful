import Faithful.Generated.GoFns
import Faithful.Lib.Multi
import Faithful.Ties.Basic
/-!
C16 tie: `MultiReaderAt.ReadAt` (split-car-fetcher/fetcher.go) as translated from /repo's working tree on every run,
over in-memory segment readers, computes what the model `Multi.go` computes — the function `Multi.readAt_spec` is
proved about (exact concatenation, end-of-file only at the true end).
-/
namespace GoTies.C16
open Go Generated.G GoTies

/-- `bytes.Reader.ReadAt` / `io.SectionReader.ReadAt` over a segment as a `Go.ReaderAt` -/
def memReader (seg : List UInt8) : Go.ReaderAt := fun n off =>
  if off < 0 then ([], .other "negative offset")
  else ((Multi.readSeg seg off.toNat n.toNat).1, if (Multi.readSeg seg off.toNat n.toNat).2 then .eof else .nil)

/-- `NewMultiReaderAt`'s offsets: the running sum of the sizes, starting at `base` -/
def offsOf : Nat → List (List UInt8) → List Int
  | _, [] => []
  | base, s :: r => (base : Int) :: offsOf (base + s.length) r

def total : List (List UInt8) → Nat
  | [] => 0
  | s :: r => s.length + total r

theorem offsOf_length (b : Nat) (l : List (List UInt8)) : (offsOf b l).length = l.length := by
  induction l generalizing b with
  | nil => rfl
  | cons s r ih => simp [offsOf, ih]

/-- the reader `NewMultiReaderAt(readers, sizes)` builds for in-memory segments -/
def mk (segs : List (List UInt8)) : Splitcarfetcher_MultiReaderAt :=
  { readers := segs.map memReader, offsets := offsOf 0 segs }

theorem scfMin_eq (a b : Int) : scfMin a b = .ok (min a b) := by
  unfold scfMin; by_cases h : a < b <;> simp [h] <;> omega
theorem scfMax_eq (a b : Int) : scfMax a b = .ok (max a b) := by
  unfold scfMax; by_cases h : a > b <;> simp [h] <;> omega

theorem memReader_natCast (seg : List UInt8) (n off : Nat) :
    memReader seg (n : Int) (off : Int) = ((Multi.readSeg seg off n).1, if (Multi.readSeg seg off n).2 then .eof else .nil) := by
  rw [memReader, if_neg (by omega)]; rfl

/-- written through `Multi.readSeg` above because that is what the model `Multi.go` calls -/
theorem memReader_eq_memRd (seg : List UInt8) : memReader seg = BkHas.memRd seg := by
  funext n off
  unfold memReader BkHas.memRd Multi.readSeg
  by_cases h : off < 0
  · simp [h]
  · by_cases h2 : off.toNat ≥ seg.length <;> simp [h, h2]

/-- what the loop knows of its reader when it stands at index `i`: from there on the tables of `m` are those of the
    segments `suf`, the first starting at `base` -/
structure From (m : Splitcarfetcher_MultiReaderAt) (i base : Nat) (suf : List (List UInt8)) : Prop where
  offs : m.offsets.drop i = offsOf base suf
  rds : m.readers.drop i = suf.map memReader
  offsLen : m.offsets.length = i + suf.length
  rdsLen : m.readers.length = i + suf.length

theorem from_mk (segs : List (List UInt8)) : From (mk segs) 0 0 segs :=
  ⟨rfl, rfl, by simp [mk, offsOf_length], by simp [mk]⟩

namespace From
variable {m : Splitcarfetcher_MultiReaderAt} {i base : Nat} {seg : List UInt8} {rest : List (List UInt8)}

theorem next (h : From m i base (seg :: rest)) : From m (i + 1) (base + seg.length) rest :=
  ⟨drop_succ_of_drop_eq_cons h.offs, drop_succ_of_drop_eq_cons h.rds, by rw [h.offsLen]; simp; omega, by rw [h.rdsLen]; simp; omega⟩

theorem offset (h : From m i base (seg :: rest)) : idx m.offsets (i : Int) = .ok (base : Int) := by
  rw [idx_natCast _ _ (by rw [h.offsLen]; simp), getD_of_drop_eq_cons h.offs]

theorem reader (h : From m i base (seg :: rest)) : idx m.readers (i : Int) = .ok (memReader seg) := by
  rw [idx_natCast _ _ (by rw [h.rdsLen]; simp), getD_of_drop_eq_cons h.rds]

end From

abbrev LoopOut := M (LoopRes (Int × Go.Error × List UInt8) (Int × Int × List UInt8 × Bool × Int × Int × Int))

theorem err_ne2 : (Go.Error.nil != Go.Error.nil) = false := by decide
theorem err_eq1 : (Go.Error.eof == Go.Error.eof) = true := by decide
theorem err_ne3 : (Go.Error.eof != Go.Error.eof) = false := by decide

/-! ### the loop body, restated in named pieces and tied to the translated code by `rfl`

The translated loop body is one do-block whose `if`s share their continuation through join points; unfolding it
naively copies the continuation twelve times.  `tail`, `afterErr`, `afterRead`, `read` name the pieces; `loop1_unfold`
(proved by `rfl`: the kernel checks that the pieces ARE the translated body) is what the proofs below rewrite with. -/

def tail (fuel0 : Nat) (m : Splitcarfetcher_MultiReaderAt) (rng1 : List Int) (f : Nat) (e : Int)
    (bufOffset : Int) (p : List UInt8) (remaining totalN : Int) (reachedEnd : Bool) (off : Int) : LoopOut :=
  if (remaining == 0) = true then pure (LoopRes.done (bufOffset, off, p, reachedEnd, remaining, totalN, e))
  else scfMultiReadAt.loop1 fuel0 m rng1 f bufOffset off p reachedEnd remaining totalN (wrap64 (e + 1))

def afterErr (fuel0 : Nat) (m : Splitcarfetcher_MultiReaderAt) (rng1 : List Int) (f : Nat) (e b : Int)
    (bufOffset : Int) (p : List UInt8) (remaining totalN n toRead : Int) (reachedEnd : Bool) : LoopOut :=
  if (n == toRead) = true then tail fuel0 m rng1 f e bufOffset p remaining totalN reachedEnd (wrap64 (b + n))
  else tail fuel0 m rng1 f e bufOffset p remaining totalN reachedEnd b

def afterRead (fuel0 : Nat) (m : Splitcarfetcher_MultiReaderAt) (rng1 : List Int) (f : Nat) (e b : Int) (re : Bool)
    (bufOffset : Int) (p : List UInt8) (remaining totalN n toRead : Int) (err_1 : Go.Error) : LoopOut :=
  if (err_1 != Error.nil) = true then
    if (err_1 == Error.eof && e == wrap64 (len m.readers - 1)) = true then
      afterErr fuel0 m rng1 f e b bufOffset p remaining totalN n toRead true
    else if (err_1 != Error.eof) = true then pure (LoopRes.ret (totalN, err_1, p))
    else afterErr fuel0 m rng1 f e b bufOffset p remaining totalN n toRead re
  else afterErr fuel0 m rng1 f e b bufOffset p remaining totalN n toRead re

def read (fuel0 : Nat) (m : Splitcarfetcher_MultiReaderAt) (rng1 : List Int) (f : Nat) (a b : Int) (p : List UInt8) (re : Bool)
    (c d e offset nextOffset : Int) : LoopOut := do
  let t5 ← scfMax 0 (wrap64 (nextOffset - b))
  let t6 ← scfMin t5 c
  let t7 ← idx m.readers e
  let t8 ← slice p a (wrap64 (a + t6))
  afterRead fuel0 m rng1 f e b re (wrap64 (a + len (t7 (len t8) (wrap64 (b - offset))).fst))
    (setSlice p a ((t7 (len t8) (wrap64 (b - offset))).fst ++ List.drop (t7 (len t8) (wrap64 (b - offset))).fst.length t8))
    (wrap64 (c - len (t7 (len t8) (wrap64 (b - offset))).fst)) (wrap64 (d + len (t7 (len t8) (wrap64 (b - offset))).fst))
    (len (t7 (len t8) (wrap64 (b - offset))).fst) t6 (t7 (len t8) (wrap64 (b - offset))).snd

theorem loop1_unfold (fuel0 : Nat) (m : Splitcarfetcher_MultiReaderAt) (rng1 : List Int) (f : Nat) (a b : Int) (p : List UInt8) (re : Bool) (c d e : Int) :
    scfMultiReadAt.loop1 fuel0 m rng1 (f+1) a b p re c d e =
      (if (!decide (e < len rng1)) = true then pure (LoopRes.done (a, b, p, re, c, d, e))
       else do
        let t3 ← idx rng1 e
        if decide (b < t3) = true then scfMultiReadAt.loop1 fuel0 m rng1 f a b p re c d (wrap64 (e + 1))
        else if decide (e < wrap64 (len m.offsets - 1)) = true then do
            let t4 ← idx m.offsets (wrap64 (e + 1))
            read fuel0 m rng1 f a b p re c d e t3 t4
          else read fuel0 m rng1 f a b p re c d e t3 9223372036854775807) := by
  rw [scfMultiReadAt.loop1]
  rfl

/-! Buffer positions, offsets and counts are natural numbers below 2^61 throughout, so every `wrap64` is the identity. -/

theorem tail_natCast (fuel0 : Nat) (m : Splitcarfetcher_MultiReaderAt) (rng1 : List Int) (f : Nat) (e bo : Int) (p : List UInt8)
    (rem : Nat) (tot : Int) (re : Bool) (off : Int) :
    tail fuel0 m rng1 f e bo p (rem : Int) tot re off =
      if rem = 0 then pure (LoopRes.done (bo, off, p, re, (rem : Int), tot, e))
      else scfMultiReadAt.loop1 fuel0 m rng1 f bo off p re (rem : Int) tot (wrap64 (e + 1)) := by
  by_cases hz : rem = 0
  · rw [tail, if_pos (by simp [hz]), if_pos hz]
  · rw [tail, if_neg (by simp [hz]), if_neg hz]

/-- `io.EOF` or no error is all that `memReader` answers at offsets ≥ 0 -/
theorem afterRead_mem (fuel0 : Nat) (m : Splitcarfetcher_MultiReaderAt) (rng1 : List Int) (f : Nat) (e : Int) (re eof : Bool)
    (bo : Int) (p : List UInt8) (rem tot : Int) (off n tr k : Nat) (hn : n ≤ k) (hoff : off + k < 2 ^ 61) :
    afterRead fuel0 m rng1 f e off re bo p rem tot (n : Int) (tr : Int) (if eof then Error.eof else Error.nil) =
      tail fuel0 m rng1 f e bo p rem tot (re || (eof && e == wrap64 (len m.readers - 1))) ((if n = tr then off + n else off : Nat) : Int) := by
  have hoff' : ((if n = tr then off + n else off : Nat) : Int) = if ((n : Int) == (tr : Int)) = true then wrap64 ((off : Int) + (n : Int)) else (off : Int) := by
    by_cases h : n = tr
    · rw [if_pos h, if_pos (by simp [h]), wrap64_natCast_add _ _ (by omega)]
    · rw [if_neg h, if_neg (by simp; omega)]
  rw [hoff']
  unfold afterRead afterErr
  generalize (e == wrap64 (len m.readers - 1)) = last
  generalize ((n : Int) == (tr : Int)) = full
  cases eof <;> cases last <;> cases full <;> simp

/-- for any reader `rd` that hands back at most the bytes it is asked for (`hrb`) -/
theorem read_eq (fuel0 : Nat) (m : Splitcarfetcher_MultiReaderAt) (rng1 : List Int) (f : Nat) (e next : Int) (rd : Go.ReaderAt)
    (hrd : idx m.readers e = .ok rd) (bo off rem base tr len : Nat) (p rb : List UInt8) (err : Error) (re : Bool)
    (htr : min (max 0 (wrap64 (next - off))) (rem : Int) = tr) (hle : tr ≤ rem) (hr : rd (tr : Int) ((off - base : Nat) : Int) = (rb, err))
    (hrb : rb.length ≤ tr) (hbase : ¬ off < base) (hoff : off + rem < 2 ^ 61) (hp : p.length = len) (hacc : bo + rem = len)
    (hlen : len < 2 ^ 61) :
    read fuel0 m rng1 f bo off p re rem bo e base next =
      afterRead fuel0 m rng1 f e off re ((bo + rb.length : Nat) : Int) (setSlice p bo (rb ++ ((p.drop bo).take tr).drop rb.length))
        ((rem - rb.length : Nat) : Int) ((bo + rb.length : Nat) : Int) (rb.length : Int) (tr : Int) err := by
  have hsl : Go.len ((p.drop bo).take tr) = (tr : Int) := by
    rw [Go.len, List.length_take, List.length_drop, Nat.min_eq_left (by omega)]
  rw [read, scfMax_eq, bind_ok, scfMin_eq, bind_ok, htr, hrd, bind_ok, wrap64_natCast_add _ _ (by omega),
    slice_natCast p _ _ (Nat.le_add_right bo tr) (by omega), bind_ok, Nat.add_sub_cancel_left, hsl,
    wrap64_natCast_sub _ _ (Nat.le_of_not_lt hbase) (by omega), hr]
  simp only [Go.len]
  rw [wrap64_natCast_add _ _ (by omega), wrap64_natCast_sub _ _ (Nat.le_trans hrb hle) (by omega)]

theorem written (p rb : List UInt8) (bo tr rem len : Nat) (hrb : rb.length ≤ tr) (hle : tr ≤ rem) (hp : p.length = len)
    (hacc : bo + rem = len) :
    (setSlice p bo (rb ++ ((p.drop bo).take tr).drop rb.length)).length = len ∧
    (setSlice p bo (rb ++ ((p.drop bo).take tr).drop rb.length)).take (bo + rb.length) = p.take bo ++ rb := by
  constructor
  · rw [setSlice_length, hp]
    rw [List.length_append, List.length_drop, List.length_take, List.length_drop, Nat.min_eq_left (by omega)]; omega
  · exact setSlice_take _ _ _ (by omega)

section head
variable {m : Splitcarfetcher_MultiReaderAt} {i base : Nat} {seg : List UInt8} {rest : List (List UInt8)}

theorem From.wrap_len_offsets (h : From m i base (seg :: rest)) (hi : i + (seg :: rest).length < 2 ^ 61) :
    wrap64 (len m.offsets - 1) = ((i + rest.length : Nat) : Int) := by
  rw [List.length_cons] at hi
  rw [len, h.offsLen, List.length_cons, wrap64_id (by omega) (by omega)]; omega

theorem From.isLast (h : From m i base (seg :: rest)) (hi : i + (seg :: rest).length < 2 ^ 61) :
    ((i : Int) == wrap64 (len m.readers - 1)) = rest.isEmpty := by
  rw [List.length_cons] at hi
  rw [len, h.rdsLen, List.length_cons, wrap64_id (by omega) (by omega)]
  cases rest <;> simp; omega

theorem From.lt_len (h : From m i base (seg :: rest)) : (i : Int) < len m.offsets := by
  rw [len, h.offsLen, List.length_cons]; omega

theorem loop1_skip (h : From m i base (seg :: rest)) (hi : i + (seg :: rest).length < 2 ^ 61) (fuel0 f : Nat) (a c d : Int) (off : Nat)
    (p : List UInt8) (re : Bool) (hb : off < base) :
    scfMultiReadAt.loop1 fuel0 m m.offsets (f + 1) a off p re c d i = scfMultiReadAt.loop1 fuel0 m m.offsets f a off p re c d ((i + 1 : Nat) : Int) := by
  rw [loop1_unfold, if_neg (by simp [h.lt_len]), h.offset, bind_ok, if_pos (by rw [decide_eq_true_eq]; omega),
    wrap64_natCast_succ _ (by omega)]

theorem loop1_reached (h : From m i base (seg :: rest)) (hi : i + (seg :: rest).length < 2 ^ 61)
    (fuel0 f : Nat) (a c d : Int) (off : Nat) (p : List UInt8) (re : Bool) (hb : ¬ off < base) :
    scfMultiReadAt.loop1 fuel0 m m.offsets (f + 1) a off p re c d i =
      read fuel0 m m.offsets f a off p re c d i base (if rest.isEmpty then 9223372036854775807 else ((base + seg.length : Nat) : Int)) := by
  rw [loop1_unfold, if_neg (by simp [h.lt_len]), h.offset, bind_ok, if_neg (by rw [decide_eq_true_eq]; omega), h.wrap_len_offsets hi]
  cases rest with
  | nil => rw [if_neg (by simp)]; rfl
  | cons s2 r2 =>
    rw [if_pos (by rw [decide_eq_true_eq, List.length_cons]; omega), wrap64_natCast_succ _ (by omega), h.next.offset, bind_ok]; rfl

/-- the request `min(max(0, nextOffset-off), remaining)` is the model's `toRead` -/
theorem toRead_eq (base : Nat) (seg : List UInt8) (rest : List (List UInt8)) (off rem : Nat) (hsz : base + total (seg :: rest) < 2 ^ 61)
    (hoff : off + rem < 2 ^ 61) :
    min (max 0 (wrap64 ((if rest.isEmpty then 9223372036854775807 else ((base + seg.length : Nat) : Int)) - off))) (rem : Int) =
      ((if rest.isEmpty then rem else min (base + seg.length - off) rem : Nat) : Int) := by
  rw [total] at hsz
  split <;> rw [wrap64_id (by omega) (by omega)]
  · omega
  · rw [Int.max_comm, ← Int.toNat_eq_max, Int.toNat_sub]; omega

theorem toRead_le (base : Nat) (seg : List UInt8) (rest : List (List UInt8)) (off rem : Nat) :
    (if rest.isEmpty then rem else min (base + seg.length - off) rem) ≤ rem := by
  split
  · exact Nat.le_refl _
  · exact Nat.min_le_right ..

end head

/-- the loop ended (normally or by `break`) in a state that shows the model's answer: the first `n` bytes of the buffer
    are the model's bytes, `totalN = n`, and "remaining > 0 && reachedEnd" is the model's end-of-file verdict -/
def Agrees (len : Nat) (model : List UInt8 × Bool) (r : LoopOut) : Prop :=
  ∃ (n : Nat) (off' : Int) (p' : List UInt8) (re' : Bool) (rem' : Nat) (ri' : Int),
    r = .ok (.done ((n : Int), off', p', re', (rem' : Int), (n : Int), ri')) ∧ n = model.1.length ∧
    p'.length = len ∧ p'.take n = model.1 ∧ (decide (0 < rem') && re') = model.2 ∧ n + rem' = len

theorem loop_agrees (fuel0 : Nat) (m : Splitcarfetcher_MultiReaderAt) (len : Nat) (hlen : len < 2 ^ 61) :
    ∀ (suf : List (List UInt8)) (i base : Nat), From m i base suf → i + suf.length < 2 ^ 61 → base + total suf < 2 ^ 61 →
    ∀ (fuel off : Nat) (p : List UInt8) (re : Bool) (acc : List UInt8) (rem : Nat),
      off + rem < 2 ^ 61 → p.length = len → acc.length + rem = len → p.take acc.length = acc → 0 < rem → suf.length < fuel →
      Agrees len (Multi.go suf base off rem acc re)
        (scfMultiReadAt.loop1 fuel0 m m.offsets fuel (acc.length : Int) (off : Int) p re (rem : Int) (acc.length : Int) (i : Int)) := by
  intro suf
  induction suf with
  | nil =>
    intro i base h _ _ fuel off p re acc rem _ hp hacc hpre _ hfuel
    cases fuel with
    | zero => exact absurd hfuel (Nat.not_lt_zero _)
    | succ f =>
      rw [loop1_unfold, if_pos (by simp [Go.len, h.offsLen])]
      exact ⟨_, _, p, re, rem, _, rfl, rfl, hp, hpre, rfl, hacc⟩
  | cons seg rest ih =>
    intro i base h hi hsz fuel off p re acc rem hoff hp hacc hpre hrem hfuel
    cases fuel with
    | zero => exact absurd hfuel (Nat.not_lt_zero _)
    | succ f =>
    have hf : rest.length < f := Nat.lt_of_succ_lt_succ hfuel
    have ih := ih (i + 1) (base + seg.length) h.next (by rw [Nat.add_right_comm]; exact hi) (by rw [Nat.add_assoc]; exact hsz) f
    rw [Multi.go]
    by_cases hskip : off < base
    · rw [if_pos hskip, loop1_skip h hi _ _ _ _ _ _ _ _ hskip]
      exact ih off p re acc rem hoff hp hacc hpre hrem hf
    · have hnext := toRead_eq base seg rest off rem hsz hoff
      have htr := toRead_le base seg rest off rem
      rw [if_neg hskip, loop1_reached h hi _ _ _ _ _ _ _ _ hskip]
      simp only []
      generalize (if rest.isEmpty then rem else min (base + seg.length - off) rem) = tr at hnext htr ⊢
      have hr := memReader_natCast seg tr (off - base)
      have hrb := Multi.readSeg_length_le seg (off - base) tr
      generalize Multi.readSeg seg (off - base) tr = r at hr hrb ⊢
      have hle := Nat.le_trans hrb htr
      obtain ⟨hwl, hwt⟩ := written p r.1 acc.length tr rem len hrb htr hp hacc
      rw [hpre, ← List.length_append] at hwt
      rw [read_eq fuel0 m _ f _ _ _ h.reader _ _ _ _ _ len _ _ _ _ hnext htr hr hrb hskip hoff hp hacc hlen,
        afterRead_mem _ _ _ _ _ _ _ _ _ _ _ _ _ _ rem hle hoff, tail_natCast, h.isLast hi, ← List.length_append]
      have hsum : acc.length + r.1.length + (rem - r.1.length) = len := by
        rw [Nat.add_assoc, Nat.add_sub_cancel' hle]; exact hacc
      have hadv : (if r.1.length = tr then off + r.1.length else off) + (rem - r.1.length) < 2 ^ 61 := by
        split
        · rw [Nat.add_assoc, Nat.add_sub_cancel' hle]; exact hoff
        · exact Nat.lt_of_le_of_lt (Nat.add_le_add_left (Nat.sub_le ..) _) hoff
      rw [← List.length_append] at hsum
      by_cases hz : rem - r.1.length = 0
      · rw [if_pos hz, if_pos hz]
        exact ⟨_, _, _, _, _, _, rfl, rfl, hwl, hwt, by simp [hz], hsum⟩
      · rw [if_neg hz, if_neg hz, wrap64_natCast_succ _ (by rw [List.length_cons] at hi; omega)]
        exact ih _ _ _ (acc ++ r.1) _ hadv hwl hsum hwt (Nat.pos_of_ne_zero hz) hf

/-- **tie**: `MultiReaderAt.ReadAt(p, off)` as translated from the source, over in-memory segment readers with the offsets
    `NewMultiReaderAt` computes, fills the front of `p` with exactly the bytes the model `Multi.readAt` returns, reports their
    number, and answers `io.EOF` exactly when the model does — for every list of segments (empty ones included), every
    non-negative offset and every non-empty buffer (sizes below 2^61; `fuel` = number of segments + 1: the loop ends). -/
theorem gen_scfMultiReadAt_eq_model (segs : List (List UInt8)) (htot : total segs < 2 ^ 61) (hcnt : segs.length < 2 ^ 61)
    (p : List UInt8) (off : Nat) (hp0 : 0 < p.length) (hoff : off + p.length < 2 ^ 61) :
    ∃ p', scfMultiReadAt (segs.length + 1) (mk segs) p (off : Int)
        = .ok (((Multi.readAt segs off p.length).1.length : Int), (if (Multi.readAt segs off p.length).2 then Go.Error.eof else Go.Error.nil), p') ∧
      p'.length = p.length ∧ p'.take (Multi.readAt segs off p.length).1.length = (Multi.readAt segs off p.length).1 := by
  obtain ⟨n, off', p', re', rem', ri', hr, hn, hlen, htake, heof, hsum⟩ :=
    loop_agrees (segs.length + 1) (mk segs) p.length (by omega) segs 0 0 (from_mk segs) (by omega) (by omega) (segs.length + 1) off p false []
      p.length (by omega) rfl (by simp) rfl hp0 (by omega)
  rw [← Multi.readAt] at hn htake heof
  subst hn
  refine ⟨p', ?_, hlen, htake⟩
  rw [scfMultiReadAt]
  simp only []
  rw [show scfMultiReadAt.loop1 _ (mk segs) _ _ 0 off p false (len p) 0 0 = _ from hr, bind_ok, ← heof]
  cases re' <;> by_cases hz : 0 < rem' <;> simp [hz]

/-- with `Multi.readAt_spec`: the bytes are the requested range of the concatenation, `io.EOF` iff the range reaches past
    the end — the statement of C16's first sentence, about the translated reader -/
theorem gen_scfMultiReadAt_spec (segs : List (List UInt8)) (hne : segs ≠ []) (htot : total segs < 2 ^ 61) (hcnt : segs.length < 2 ^ 61)
    (p : List UInt8) (off : Nat) (hp0 : 0 < p.length) (hoff : off + p.length < 2 ^ 61) :
    ∃ n err p', scfMultiReadAt (segs.length + 1) (mk segs) p (off : Int) = .ok (n, err, p') ∧
      p'.length = p.length ∧ n = ((Multi.want segs off p.length).length : Int) ∧
      p'.take (Multi.want segs off p.length).length = Multi.want segs off p.length ∧
      (err = Go.Error.eof ↔ (Multi.want segs off p.length).length < p.length) ∧ (err = Go.Error.eof ∨ err = Go.Error.nil) := by
  obtain ⟨p', hr, hlen, htake⟩ := gen_scfMultiReadAt_eq_model segs htot hcnt p off hp0 hoff
  obtain ⟨h1, h2⟩ := Multi.readAt_spec segs off p.length hne hp0
  refine ⟨_, _, p', hr, hlen, by rw [h1], by rw [h1] at htake; exact htake, ?_, ?_⟩
  · rw [← h2]; cases (Multi.readAt segs off p.length).2 <;> simp
  · cases (Multi.readAt segs off p.length).2 <;> simp

/-- non-vacuity: the hypotheses are satisfiable and the translated reader runs (through the theorem) -/
example : ∃ p', scfMultiReadAt 3 (mk [[1, 2, 3], [4, 5]]) [0, 0, 0] ((2 : Nat) : Int) = .ok (3, Go.Error.nil, p') ∧ p'.take 3 = [3, 4, 5] := by
  obtain ⟨p', h, _, ht⟩ := gen_scfMultiReadAt_eq_model [[1, 2, 3], [4, 5]] (by decide) (by decide) [0, 0, 0] 2 (by decide) (by decide)
  have hm : Multi.readAt [[1, 2, 3], [4, 5]] 2 3 = ([3, 4, 5], false) := by decide
  simp only [List.length_cons, List.length_nil, hm] at h ht
  exact ⟨p', h, ht⟩

example : ∃ p', scfMultiReadAt 3 (mk [[1, 2, 3], [4, 5]]) [0, 0, 0] ((4 : Nat) : Int) = .ok (1, Go.Error.eof, p') := by
  obtain ⟨p', h, _, _⟩ := gen_scfMultiReadAt_eq_model [[1, 2, 3], [4, 5]] (by decide) (by decide) [0, 0, 0] 4 (by decide) (by decide)
  have hm : Multi.readAt [[1, 2, 3], [4, 5]] 4 3 = ([5], true) := by decide
  simp only [List.length_cons, List.length_nil, hm] at h
  exact ⟨p', h⟩

end GoTies.C16
